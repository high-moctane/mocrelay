/-
  C05 — Deletion requests touch only the author's own events; authors are isolated.
  Model: `Cache.add`, `Cache.delete`, `Cache.deleteByKind5` (MocModel/Cache.lean).

  Here, one operation at a time: the statements are read off from what CacheLemmas says `delete`, `deleteByKind5` and
  `Add` do (`mem_delete_evs`, `mem_deleteByKind5_evs`, `add_cases`); `add_leaves` gives the reason for every event
  that leaves the store on an `Add`.  Over every history: C05Inv (a retained request and an event it names are never
  retained together), C05Sound (every block has its retained request).  The registry as the code keeps it: C05Reg.
-/
import MocProps.C04
import MocProps.CacheOrder

namespace Moc.C05
open Moc.CacheL Moc.C04

theorem addKind5_deleted_mem (c : Cache) (e : Event) (t : String × String × String) :
    t ∈ (c.addKind5 e).deleted ↔ t ∈ c.deleted ∨ (t.1 ∈ k5Refs e ∧ t.2.1 = e.pubkey ∧ t.2.2 = e.id) := by
  -- the registry is a set kept as a list: each round of the loop is a `List.insert`
  show t ∈ (k5Refs e).foldl (fun d k => d.insert (k, e.pubkey, e.id)) c.deleted ↔ _
  generalize k5Refs e = refs, c.deleted = d
  induction refs generalizing d with
  | nil => simp
  | cons r rs ih =>
    rw [List.foldl_cons, ih, List.mem_insert_iff, List.mem_cons, Prod.ext_iff, Prod.ext_iff, or_and_right, or_assoc,
      or_left_comm]

theorem oldestOf_min : ∀ (l : List Event) (o : Event), oldestOf l = some o → ∀ y ∈ l, o.createdAt ≤ y.createdAt :=
  fun l o h y hy => Int.not_lt.1 fun hlt =>
    Bool.false_ne_true ((C03.oldestOf_max l o h y hy).symm.trans ((C03.before_iff o y).2 (Or.inl hlt)))

/-- Stated of the registry (`isDeleted`).  That a registration is there exactly while a request of that author naming
    the key is retained is `registry_exact` (C05Sound); in terms of the retained request, `deleted_stays_out` (C05Inv). -/
theorem blocked_while_deletion_retained (c : Cache) (e : Event) (hne : eventType e.kind ≠ .ephemeral)
    (h : c.isDeleted (eventKey e) e.pubkey = true ∨ c.isDeleted e.id e.pubkey = true) :
    c.add e = (c, false) := by
  rw [add_eq_ite, if_neg (mt beq_iff_eq.1 hne), if_pos]
  exact Bool.or_eq_true_iff.2 h

theorem delete_isolated (c : Cache) (k p : String) (x : Event) (hx : x ∈ c.evs)
    (hnd : (c.evs.map eventKey).Nodup) (hp : x.pubkey ≠ p) : x ∈ (c.delete k p).evs :=
  (mem_delete_evs c k p hnd x).2 ⟨hx, fun h => hp h.2⟩

theorem deleteByKind5_isolated (c : Cache) (e x : Event) (hx : x ∈ c.evs)
    (hnd : (c.evs.map eventKey).Nodup) (hp : x.pubkey ≠ e.pubkey) : x ∈ (c.deleteByKind5 e).evs :=
  (mem_deleteByKind5_evs c e hnd x).2 ⟨hx, fun h => hp h.author.symm⟩

theorem deleteByKind5_removes (c : Cache) (e x : Event) (hnd : (c.evs.map eventKey).Nodup)
    (hp : x.pubkey = e.pubkey) (href : eventKey x ∈ k5Refs e ∨ x.id ∈ k5Refs e) :
    x ∉ (c.deleteByKind5 e).evs :=
  fun hx => ((mem_deleteByKind5_evs c e hnd x).1 hx).2 ⟨hp.symm, href⟩

/-- C04's clause on why an event leaves: it was stored under the key of the offered event, or the offered event is a
    deletion request of its author that names it, or it is evicted, and then no event that remains is older. -/
theorem add_leaves (c : Cache) (e x : Event) (hk : (c.evs.map eventKey).Nodup) (hx : x ∈ c.evs)
    (hgone : x ∉ (c.add e).1.evs) :
    eventKey x = eventKey e ∨ (e.kind = 5 ∧ Names e x) ∨
    ((c.evs.length : Int) + 1 > c.cap ∧ ∀ y ∈ (c.add e).1.evs, x.createdAt ≤ y.createdAt) := by
  rcases add_cases c e with ⟨_, h⟩ | ⟨_, _, h⟩ | ⟨_, _, _, c0, ⟨p, h0⟩, hev, h⟩ <;> rw [h] at hgone ⊢
  · exact absurd hx hgone
  · exact absurd hx hgone
  · refine Classical.or_iff_not_imp_left.2 fun hke => Classical.or_iff_not_imp_left.2 fun hnamed => ?_
    -- after the processing of `e` as a deletion request `x` is still there, so it is the eviction that removes it
    have hk1 : (({ c0 with evs := e :: c0.evs } : Cache).evs.map eventKey).Nodup := by
      rw [hev]; exact keys_nodup_put c.evs e hk
    have hle := process_le { c0 with evs := e :: c0.evs } e
    have hx2 := (mem_process_evs _ e hk1 x).2 ⟨by
      rw [hev]; exact List.mem_cons_of_mem _ (List.mem_filter.2 ⟨hx, bne_iff_ne.2 hke⟩), hnamed⟩
    obtain ⟨hover, ho⟩ := Classical.not_not.1 fun hn => hgone ((mem_evict_evs _ (hle.keys hk1) x).2 ⟨hx2, hn⟩)
    rw [hle.1.trans (h0 ▸ delete_cap c _ p : c0.cap = c.cap)] at hover
    refine ⟨Int.lt_of_lt_of_le hover (Int.ofNat_le.2 (Nat.le_trans hle.2.length_le ?_)),
      fun y hy => oldestOf_min _ _ ho y ((evict_le _).2.subset hy)⟩
    rw [hev]
    exact Nat.succ_le_succ (List.length_filter_le ..)

/-- C05's isolation clause.  `hkey`: an event of another author is never stored under the key of the offered event:
    the keys of replaceable / addressable events contain the author, ids are hashes. -/
theorem author_isolation (c : Cache) (e x : Event) (hinv : Inv1 c) (hx : x ∈ c.evs)
    (hp : x.pubkey ≠ e.pubkey) (hkey : eventKey x ≠ eventKey e) :
    x ∈ (c.add e).1.evs ∨
      ((c.evs.length : Int) + 1 > c.cap ∧ ∀ y ∈ (c.add e).1.evs, x.createdAt ≤ y.createdAt) :=
  Classical.or_iff_not_imp_left.2 fun hgone =>
    ((add_leaves c e x hinv.keys hx hgone).resolve_left hkey).resolve_left fun h => hp h.2.author.symm

/-- with `blocked_while_deletion_retained`: what an accepted deletion request names cannot be inserted again -/
theorem k5_refs_registered (c : Cache) (e : Event) :
    ∀ k ∈ k5Refs e, (c.addKind5 e).isDeleted k e.pubkey = true :=
  fun k hk => (isDeleted_iff _ k e.pubkey).2
    ⟨(k, e.pubkey, e.id), (addKind5_deleted_mem c e _).2 (Or.inr ⟨hk, rfl, rfl⟩), rfl, rfl⟩

-- a deletion request removes its author's event (`1`), not the other author's (`2`)

example :
    let a1 := C04.ev "1" "alice" 5 1 []
    let b1 := C04.ev "2" "bob" 5 1 []
    let k5 := C04.ev "3" "alice" 6 5 [["e", "1"], ["e", "2"]]
    ((C04.run { cap := 10 } [a1, b1, k5]).evs.map (·.id)) = ["3", "2"] := by decide

end Moc.C05
