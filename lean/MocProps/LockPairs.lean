/-
  Mutex discipline of the stateful middlewares (C18), the metrics middleware (C19), the shared store (C15) and the
  registry map (C07): EVERY acquisition `X.Lock()` / `X.RLock()` in handler.go, middleware/prometheus/prometheus.go,
  event_cache.go and data_structure.go is immediately followed by the matching `defer X.Unlock()` / `defer X.RUnlock()`,
  so each critical section extends to the end of its function (or switch case) on every path, panics included.
  The tables are regenerated from the source on every run (go2lean selector `lockpairs`).
-/
import MocModel.Gen.Locks

namespace Moc.LockPairs

/-- rows are (function, acquisition, is it immediately followed by the matching deferred release) -/
def allPaired (t : List (String × String × Bool)) : Bool := t.all (fun r => r.2.2)

/-- the per-session quota state of the max-subscriptions middleware -/
theorem handler_locks_paired : allPaired Gen.lockPairsHandler = true ∧ Gen.lockPairsHandler.length = 2 := by decide

/-- the subscription gauge and the response-time bookkeeping of the metrics middleware -/
theorem prometheus_locks_paired : allPaired Gen.lockPairsProm = true ∧ Gen.lockPairsProm.length = 9 := by decide

theorem cache_locks_paired : allPaired Gen.lockPairsCache = true ∧ Gen.lockPairsCache.length = 3 := by decide

theorem safeMap_locks_paired : allPaired Gen.lockPairsSafeMap = true ∧ Gen.lockPairsSafeMap.length = 5 := by decide

/-- non-vacuity: an acquisition whose release is not deferred right away is flagged -/
example : allPaired [("T.f", "c.mu.Lock()", false)] = false := by decide

end Moc.LockPairs
