/-
  C14 — SQLite batches are atomic and idempotent; data and semantics survive reopen.

  Model: MocModel/Sqlite.lean.  Atomicity and persistence are properties of SQLite's transactions and files: in the
  table model a failed batch is the identity BY DEFINITION (`Db.insertBatchFailing`) and a close/reopen is not
  modelled (the driver keeps the model's tables across one and goes on comparing answers); that the real database
  behaves so, also for replacement and deletion across a restart, is what the fault-injecting correspondence checks
  (runtime-validated).  Proved is the logic the code contributes: inserting a batch again changes nothing
  (`insertBatch_idempotent`), because every statement of the second run finds its event settled; and, in C14Tx.lean,
  all-or-nothing of `insertEvents` and `bulkInsertWithRetry` over single driver calls.
-/
import MocModel.Sqlite
import MocProps.SqliteLemmas

namespace Moc.C14

theorem sqlite_source_pinned : sqliteActualSource = sqliteExpectedSource := rfl

/-- the definition of `Db.insertBatchFailing`; for the driver-call model see `tx_all_or_nothing` -/
theorem failed_batch_is_identity (db : Db) (b : List Event) (fs : List Filter) :
    (db.insertBatchFailing b).candidates fs = db.candidates fs := rfl

/-- again by definition -/
theorem retry_after_failure (db : Db) (b : List Event) :
    (db.insertBatchFailing b).insertBatch b = db.insertBatch b := rfl

/-- Idempotence, after a success or as the retry that follows a failed attempt.  `h`: over the stored rows and the
    batch, equal ids carry equal `created_at` (equal id ⇒ equal event, which authenticity provides). -/
theorem insertBatch_idempotent (db : Db) (b : List Event)
    (h : Coherent (db.events ++ (b.filterMap buildParams).map (·.row))) :
    (db.insertBatch b).insertBatch b = db.insertBatch b :=
  insertBatch_again db b b (fun _ he => he) h

/-- failed attempts in between are the identity in this model, so they do not appear -/
theorem retries_equal_single_success (db : Db) (b : List Event) (n : Nat)
    (h : Coherent (db.events ++ (b.filterMap buildParams).map (·.row))) :
    (List.replicate n b).foldl Db.insertBatch (db.insertBatch b) = db.insertBatch b := by
  induction n with
  | zero => rfl
  | succ n ih =>
    simp only [List.replicate_succ, List.foldl_cons]
    rw [insertBatch_idempotent db b h]
    exact ih

/-! non-vacuity: a batch with two versions of one address (the older arriving second), a regular event and a
    deletion request of it (distinct ids, so `Coherent` holds); the second run changes nothing -/
def hx (c : Char) : String := String.ofList [c, c]
def exBatch : List Event := [
  { id := hx 'a', pubkey := hx '1', createdAt := 10, kind := 30023, tags := [["d", "x"]], content := "v2", sig := hx 'a' },
  { id := hx 'b', pubkey := hx '1', createdAt := 5, kind := 30023, tags := [["d", "x"]], content := "v1", sig := hx 'b' },
  { id := hx 'c', pubkey := hx '1', createdAt := 7, kind := 1, tags := [["e", hx 'd']], content := "note", sig := hx 'c' },
  { id := hx 'e', pubkey := hx '1', createdAt := 8, kind := 5, tags := [["e", hx 'c', "wss://r"]], content := "", sig := hx 'e' }]
example : ((({} : Db).insertBatch exBatch).events.map (·.id), (({} : Db).insertBatch exBatch).delIds) =
    ([hx 'a', hx 'c', hx 'e'], [(hx 'c', hx '1')]) := by decide +kernel
example : ((({} : Db).insertBatch exBatch).insertBatch exBatch) = (({} : Db).insertBatch exBatch) := by decide +kernel

end Moc.C14
