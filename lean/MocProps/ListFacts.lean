/- Facts about lists and comparisons that core lacks and that proofs of more than one component use. -/

namespace Moc

theorem all_congr_on {α} (l : List α) (p q : α → Bool) (h : ∀ x ∈ l, p x = q x) : l.all p = l.all q := by
  induction l with
  | nil => rfl
  | cons a l ih =>
    simp only [List.all_cons, h a (by simp), ih (fun x hx => h x (List.mem_cons_of_mem _ hx))]

theorem nodup_of_map_nodup {α β} (f : α → β) (l : List α) (h : (l.map f).Nodup) : l.Nodup :=
  h.of_map f fun _ _ hab e => hab (congrArg f e)

theorem eraseDups_of_nodup {α} [BEq α] [LawfulBEq α] (l : List α) (h : l.Nodup) : l.eraseDups = l := by
  induction l with
  | nil => rfl
  | cons x xs ih =>
    obtain ⟨hx, hxs⟩ := List.nodup_cons.1 h
    rw [List.eraseDups_cons, List.filter_eq_self.2 fun y hy => by simpa using fun hyx : y = x => hx (hyx ▸ hy), ih hxs]

theorem nodup_eraseDups {α} [BEq α] [LawfulBEq α] (l : List α) : l.eraseDups.Nodup := by
  generalize hn : l.length = n
  induction n using Nat.strongRecOn generalizing l with
  | _ n ih =>
    cases l with
    | nil => simp
    | cons a as =>
      rw [List.eraseDups_cons, List.nodup_cons]
      exact ⟨fun hm => by simpa using (List.mem_filter.1 (List.mem_eraseDups.1 hm)).2,
        ih _ (hn ▸ Nat.lt_succ_of_le (List.length_filter_le _ _)) _ rfl⟩

theorem lt_eq_not_le (a b : Int) : decide (a < b) = !decide (b ≤ a) := by
  simp only [← Int.not_le, decide_not]

end Moc
