/-
  C11 — Admission: well-formed messages are accepted, accepted ones are sound.

  Model: MocModel/Valid.lean (validators, every condition regenerated) and the label stage of
  `ParseClientMsg` (MocModel/Codec.lean, `labelOfChars`).  Spec: MocModel/Spec/Valid.lean.

  The spec's Boolean monitors are shown to be the constraints first; then every validator is shown to compute what its
  monitor computes (`validX_eq`), so each constraint is characterised once and the `validX_iff` are corollaries.

  All of this is about parsed messages.  That parsing a JSON text and then validating behaves so is judged at run
  time, by the monitor `msgOkB` on the implementation's verdicts.  Trusted: Go's meaning of `\s` and `\w` (the label
  scanner is a hand translation of the regexp) and `strconv.ParseInt` (`parseInt64Chars`, modelled by hand).
-/
import MocModel.Spec.Valid
import MocModel.Codec
import MocProps.ListFacts

namespace Moc.C11
open Moc.ValidSpec

/-- the regexp the hand-written label scanner implements is the one in the source -/
theorem regexp_pinned : Gen.clientMsgRegexp = clientMsgRegexpExpected := by rfl

theorem span_append {α} {p : α → Bool} {l : List α} {a : α} (r : List α) (hl : ∀ x ∈ l, p x = true)
    (ha : p a = false) : (l ++ a :: r).takeWhile p = l ∧ (l ++ a :: r).dropWhile p = a :: r := by
  simp [List.takeWhile_append_of_pos hl, List.dropWhile_append_of_pos hl, ha]

theorem no_colon_iff (l : List Char) : ':' ∉ l ↔ ∀ x ∈ l, (x != ':') = true := by
  simp only [bne_iff_ne, ne_eq]
  exact ⟨fun h x hx e => h (e ▸ hx), fun h hc => h _ hc rfl⟩

theorem cut_colon {l : List Char} (h : 0 < (l.dropWhile (· != ':')).length) :
    l = l.takeWhile (· != ':') ++ ':' :: (l.dropWhile (· != ':')).drop 1 ∧ ':' ∉ l.takeWhile (· != ':') := by
  refine ⟨?_, (no_colon_iff _).2 (List.all_eq_true.1 List.all_takeWhile)⟩
  rcases hd : l.dropWhile (· != ':') with _ | ⟨c, r⟩
  · simp [hd] at h
  · obtain rfl : c = ':' := by simpa [hd] using List.head?_dropWhile_not (· != ':') l
    rw [List.drop_succ_cons, List.drop_zero, ← hd, List.takeWhile_append_dropWhile]

def IsJsonSpace (c : Char) : Prop := c = ' ' ∨ c = '\t' ∨ c = '\n' ∨ c = '\r'

theorem isReSpace_of_json (c : Char) (h : IsJsonSpace c) : isReSpace c = true := by
  rcases h with rfl | rfl | rfl | rfl <;> decide

/-- completeness of the label stage: any JSON white space before `[` and before the label is accepted (it is within the
    regexp's `\s`); `hl`: the label is made of `\w` characters -/
theorem labelOf_wellformed (ws1 ws2 label rest : List Char)
    (h1 : ∀ c ∈ ws1, IsJsonSpace c) (h2 : ∀ c ∈ ws2, IsJsonSpace c) (hl : ∀ c ∈ label, isReWord c = true) :
    labelOfChars (ws1 ++ '[' :: (ws2 ++ '"' :: (label ++ '"' :: rest))) = some label := by
  have c1 := span_append (p := isReSpace) (a := '[') (ws2 ++ '"' :: (label ++ '"' :: rest))
    (fun c h => isReSpace_of_json c (h1 c h)) (by decide)
  have c2 := span_append (p := isReSpace) (a := '"') (label ++ '"' :: rest)
    (fun c h => isReSpace_of_json c (h2 c h)) (by decide)
  have c3 := span_append (p := isReWord) (a := '"') rest hl (by decide)
  simp only [labelOfChars, c1.2, c2.2, c3.1, c3.2]

theorem isLowerHexB_iff (n : Nat) (s : String) : isLowerHexB n s = true ↔ IsLowerHex n s := by
  simp [isLowerHexB, IsLowerHex, List.all_eq_true]

theorem kindOkB_iff (k : Int) : kindOkB k = true ↔ KindOk k := by simp [kindOkB, KindOk]

theorem tagOkB_iff (t : List String) : tagOkB t = true ↔ TagOk t := by
  cases t <;> simp [tagOkB, TagOk]

theorem eventOkB_iff (e : Event) : eventOkB e = true ↔ EventOk e := by
  simp only [eventOkB, EventOk, Bool.and_eq_true, and_assoc, isLowerHexB_iff, kindOkB_iff, List.all_eq_true, tagOkB_iff]

theorem naddrOkB_iff (s : String) : naddrOkB s = true ↔ NaddrOk s := by
  simp only [naddrOkB, NaddrOk, Bool.and_eq_true, decide_eq_true_eq, beq_iff_eq, List.all_eq_true,
    List.contains_iff_mem]
  constructor
  · rintro ⟨⟨⟨⟨hl1, hl2⟩, hk⟩, hlen⟩, hhex⟩
    obtain ⟨e1, n1⟩ := cut_colon hl1
    obtain ⟨e2, n2⟩ := cut_colon hl2
    rcases hp : parseInt64Chars (s.toList.takeWhile (· != ':')) with _ | kind
    · simp [hp] at hk
    exact ⟨_, _, _, kind, by rw [List.append_assoc, List.cons_append, ← e2, ← e1], n1, n2, hp,
      (kindOkB_iff kind).1 (by simpa [hp] using hk), hlen, hhex⟩
  · rintro ⟨k, pk, d, kind, hs, hk, hpk, hp, hko, hl, hh⟩
    rw [List.append_assoc, List.cons_append] at hs
    obtain ⟨t1, t2⟩ := span_append (a := ':') (pk ++ ':' :: d) ((no_colon_iff k).1 hk) (by decide)
    obtain ⟨t3, t4⟩ := span_append (a := ':') d ((no_colon_iff pk).1 hpk) (by decide)
    simp only [hs, t1, t2, t3, t4, List.drop_succ_cons, List.drop_zero, hp, (kindOkB_iff kind).2 hko,
      List.length_cons]
    exact ⟨⟨⟨⟨Nat.succ_pos _, Nat.succ_pos _⟩, trivial⟩, hl⟩, hh⟩

theorem tagCondOkB_iff (c : String × List String) : tagCondOkB c = true ↔ TagCondOk c := by
  -- unfolded, the same conjunction on both sides; the monitor writes each `c.1 = "e" → …` as `c.1 != "e" || …`
  -- (`← Decidable.imp_iff_not_or`), the other lemmas only turn Boolean tests into propositions
  simp only [tagCondOkB, TagCondOk, isLetterByte, Bool.and_eq_true, and_assoc, Bool.or_eq_true, beq_iff_eq,
    decide_eq_true_eq, bne_iff_ne, ne_eq, ← Decidable.imp_iff_not_or, List.all_eq_true, isLowerHexB_iff, naddrOkB_iff]

theorem filterOkB_iff (f : Filter) : filterOkB f = true ↔ FilterOk f := by
  simp only [filterOkB, FilterOk, Bool.and_eq_true, and_assoc]
  refine and_congr ?_ <| and_congr ?_ <| and_congr ?_ <| and_congr ?_ <| and_congr ?_ <| and_congr ?_ <|
    and_congr ?_ ?_
  · cases f.ids <;> simp [isLowerHexB_iff]
  · cases f.authors <;> simp [isLowerHexB_iff]
  · cases f.kinds <;> simp [kindOkB_iff]
  · cases f.tags <;> simp [tagCondOkB_iff]
  · cases f.since <;> simp
  · cases f.until_ <;> simp
  · cases f.since <;> cases f.until_ <;> simp
  · cases f.limit <;> simp

theorem filtersOkB_iff (fs : List Filter) :
    (!fs.isEmpty && fs.all filterOkB) = true ↔ fs ≠ [] ∧ ∀ f ∈ fs, FilterOk f := by
  simp only [Bool.and_eq_true, Bool.not_eq_true', List.all_eq_true, filterOkB_iff, List.isEmpty_eq_false_iff]

theorem msgOkB_iff (m : ClientMsg) : msgOkB m = true ↔ MsgOk m := by
  cases m with
  | event e => exact eventOkB_iff e
  | auth e => exact eventOkB_iff e
  | close s => exact iff_of_true rfl trivial
  | req s fs => exact filtersOkB_iff fs
  | count s fs => exact filtersOkB_iff fs

/-- the two ranges `validHexString` tests are the sixteen lower-case digits: `toNat` is injective, and the
    digits' codes are 48..57 and 97..102 -/
theorem mem_hexDigits_iff (c : Char) :
    c ∈ hexDigits ↔ (48 ≤ c.toNat ∧ c.toNat ≤ 57) ∨ (97 ≤ c.toNat ∧ c.toNat ≤ 102) := by
  have codes : hexDigits.map Char.toNat = List.range' 48 10 ++ List.range' 97 6 := by rfl
  have h : c ∈ hexDigits ↔ c.toNat ∈ hexDigits.map Char.toNat :=
    ⟨List.mem_map_of_mem, fun h => by
      obtain ⟨d, hd, e⟩ := List.mem_map.1 h
      exact Char.toNat_inj.1 e ▸ hd⟩
  rw [h, codes, List.mem_append, List.mem_range'_1, List.mem_range'_1]
  exact or_congr (and_congr_right fun _ => Nat.lt_succ_iff) (and_congr_right fun _ => Nat.lt_succ_iff)

theorem hexChar_eq (c : Char) : (!Gen.hexCharReject c.toNat) = hexDigits.contains c := by
  rw [Bool.eq_iff_iff, List.contains_iff_mem, mem_hexDigits_iff]
  simp only [Gen.hexCharReject, Bool.not_not, Bool.or_eq_true, Bool.and_eq_true, decide_eq_true_eq]
  omega

/-- a test for a positive length makes the emptiness test of `validHexString` redundant -/
theorem hex_eq (n : Nat) (hn : 0 < n) (cs : List Char) :
    (((byteLen cs : Int) == n) && validHexChars cs) = (byteLen cs == n && cs.all hexDigits.contains) := by
  have hall : validHexChars cs = (!((byteLen cs : Int) == 0) && cs.all hexDigits.contains) := by
    simp only [validHexChars, Gen.hexEmpty, hexChar_eq]
  rw [hall]
  generalize cs.all hexDigits.contains = b
  by_cases h : byteLen cs = n
  · have : ((n : Int) == 0) = false := beq_false_of_ne (by omega)
    simp [h, this]
  · have : ((byteLen cs : Int) == n) = false := beq_false_of_ne (by omega)
    simp [h, this]

theorem validID_eq (s : String) : validID s = isLowerHexB 64 s := hex_eq 64 (by decide) s.toList
theorem validPubkey_eq (s : String) : validPubkey s = isLowerHexB 64 s := hex_eq 64 (by decide) s.toList
theorem validSig_eq (s : String) : validSig s = isLowerHexB 128 s := hex_eq 128 (by decide) s.toList

theorem validNaddr_eq (s : String) : validNaddr s = naddrOkB s := by
  unfold validNaddr validNaddrChars splitColon3 naddrOkB
  rcases h1 : s.toList.dropWhile (· != ':') with _ | ⟨_, r1⟩
  · simp [h1, Gen.naddrArityBad]
  rcases h2 : r1.dropWhile (· != ':') with _ | ⟨_, r2⟩
  · simp [h1, h2, Gen.naddrArityBad]
  have hpk : validPubkeyChars (r1.takeWhile (· != ':')) = _ := hex_eq 64 (by decide) _
  -- three parts: each `if bad then false else …` of the validator is one `ok && …` of the monitor
  simp only [h1, h2, List.drop_succ_cons, List.drop_zero, List.getD_cons_succ, List.getD_cons_zero, hpk,
    Bool.and_assoc, Gen.naddrKindBad, Gen.naddrPubkeyBad, Bool.if_false_left, Bool.decide_eq_true, Bool.not_not,
    Bool.and_true]
  rcases parseInt64Chars (s.toList.takeWhile (· != ':')) with _ | kind <;> rfl

theorem nameBad_eq (n b : Nat) :
    Gen.filterTagNameBad n b = !(n == 1 && ((65 ≤ b && b ≤ 90) || (97 ≤ b && b ≤ 122))) := by
  rw [Bool.eq_iff_iff]
  -- both sides as statements about numbers, the regenerated one about their casts to `Int`
  simp only [Gen.filterTagNameBad, Bool.or_eq_true, Bool.not_eq_true', Bool.and_eq_false_iff, Bool.or_eq_false_iff,
    bne_iff_ne, beq_eq_false_iff_ne, decide_eq_false_iff_not, ne_eq]
  omega

theorem validTagCond_eq (c : String × List String) : validTagCond c = tagCondOkB c := by
  obtain ⟨name, vals⟩ := c
  simp only [validTagCond, tagCondOkB, nameBad_eq, Gen.filterTagE, Gen.filterTagP, Gen.filterTagA, Gen.filterTagEBad,
    Gen.filterTagPBad, Gen.filterTagABad, Bool.not_not, funext validID_eq, funext validPubkey_eq, funext validNaddr_eq]
  generalize (byteLen name.toList == 1 && _) = nameOk
  cases nameOk
  · rfl
  by_cases he : name = "e"
  · simp [he]
  by_cases hp : name = "p"
  · simp [hp]
  by_cases ha : name = "a" <;> simp [he, hp, ha]

theorem validKind_eq (k : Int) : validKind k = kindOkB k := rfl

theorem validTag_eq (t : List String) : validTag t = tagOkB t := by
  cases t with
  | nil => rfl
  | cons k r =>
    have : decide (((k :: r).length : Int) ≥ 1) = true :=
      decide_eq_true (Int.ofNat_le.2 (Nat.le_add_left 1 r.length))
    simp only [validTag, Gen.validTagCond, this, Bool.true_and, tagOkB]

theorem validEvent_eq (e : Event) : validEvent e = eventOkB e := by
  simp only [validEvent, eventOkB, Gen.eventValidCond, Bool.true_and, Bool.and_true, validID_eq, validPubkey_eq,
    validSig_eq, validKind_eq, funext validTag_eq]

theorem validFilter_eq (f : Filter) : validFilter f = filterOkB f := by
  simp only [validFilter, filterOkB, Gen.filterIdsBad, Gen.filterAuthorsBad, Gen.filterKindsBad, Gen.filterSinceBad,
    Gen.filterUntilBad, Gen.filterSinceUntilBad, Gen.filterLimitBad, Bool.not_not, funext validID_eq,
    funext validPubkey_eq, funext validKind_eq, funext validTagCond_eq, lt_eq_not_le, gt_iff_lt]
  -- the two definitions have the same shape, and with the leaves rewritten the same arms
  rfl

/-- the dispatcher `ValidClientMsg` and the list-carrying `Valid` methods are the ones the model follows -/
theorem valid_dispatch_pinned : validDispatchActual = validDispatchExpected := by rfl

theorem validClientMsg_eq_monitor (m : ClientMsg) : validClientMsg m = msgOkB m := by
  have hlen : ∀ fs : List Filter, ((fs.length : Int) == 0) = fs.isEmpty := fun fs => by
    cases fs
    · rfl
    · exact beq_false_of_ne (by simp only [List.length_cons]; omega)
  cases m <;>
    simp only [validClientMsg, msgOkB, Gen.clientEventValid, Gen.clientAuthValid, Gen.clientCloseValid,
      Gen.reqNoFilters, Gen.countNoFilters, Bool.true_and, validEvent_eq, funext validFilter_eq, hlen]

theorem validID_iff (s : String) : validID s = true ↔ IsLowerHex 64 s := by
  rw [validID_eq, isLowerHexB_iff]

theorem validPubkey_iff (s : String) : validPubkey s = true ↔ IsLowerHex 64 s := by
  rw [validPubkey_eq, isLowerHexB_iff]

theorem validSig_iff (s : String) : validSig s = true ↔ IsLowerHex 128 s := by
  rw [validSig_eq, isLowerHexB_iff]

theorem validKind_iff (k : Int) : validKind k = true ↔ KindOk k := kindOkB_iff k

theorem validTag_iff (t : List String) : validTag t = true ↔ TagOk t := by
  rw [validTag_eq, tagOkB_iff]

theorem validEvent_iff (e : Event) : validEvent e = true ↔ EventOk e := by
  rw [validEvent_eq, eventOkB_iff]

example : validKind 65535 = true ∧ validKind 65536 = false ∧ validKind (-1) = false := by decide

/-- in `kind:pubkey:d` the `d` is unconstrained: it may contain `:` -/
theorem validNaddr_iff (s : String) : validNaddr s = true ↔ NaddrOk s := by
  rw [validNaddr_eq, naddrOkB_iff]

theorem validTagCond_iff (c : String × List String) : validTagCond c = true ↔ TagCondOk c := by
  rw [validTagCond_eq, tagCondOkB_iff]

theorem validFilter_iff (f : Filter) : validFilter f = true ↔ FilterOk f := by
  rw [validFilter_eq, filterOkB_iff]

/-- `ValidClientMsg` judges a parsed client message valid exactly when it meets the NIP-01 constraints: `←` is "no
    well-formed message is turned away", `→` is what every component behind the gate may rely on. -/
theorem validClientMsg_iff (m : ClientMsg) : validClientMsg m = true ↔ MsgOk m := by
  rw [validClientMsg_eq_monitor, msgOkB_iff]

end Moc.C11
