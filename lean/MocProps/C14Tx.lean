import MocModel.SqlTx
import MocProps.C14

/-!
  C14, the transaction at the level of single driver calls (`MocModel/SqlTx.lean`).

  `execEvent_eq` / `execBatch_eq`: the statements issued for an event, one by one, build exactly the tables of
  `Db.insertOne` — the per-event model every C06 / C14 theorem is about — provided every one of them gets through.
  Hence `insertEventsTx_eq`: under EVERY fault plan `insertEvents` reports success exactly when the plan fails none of
  the driver calls of the fault-free run, and then the database is that of the whole batch; otherwise it reports an
  error and the database is unchanged.  `insertWithRetry_eq` is the same through `bulkInsertWithRetry`; the theorems
  named `…_work`, `tx_…` and `retry_…` are corollaries.

  Assumed in the model (SqlTx.lean) and checked only at run time, by the fault-injecting driver: that Rollback and a
  failed Commit leave the database as it was at BeginTx.
-/

namespace Moc.C14

/-- the plan lets the driver calls `k+1 … k+n` through -/
def clear (fails : Nat → Bool) (k n : Nat) : Bool := (List.range' (k + 1) n).all fun i => !fails i

theorem clear_succ (fails : Nat → Bool) (k n : Nat) :
    clear fails k (n + 1) = (!fails (k + 1) && clear fails (k + 1) n) := by
  rw [clear, List.range'_succ, List.all_cons]
  rfl

theorem clear_add (fails : Nat → Bool) (k m n : Nat) :
    clear fails k (m + n) = (clear fails k m && clear fails (k + m) n) := by
  unfold clear
  rw [← List.all_append, Nat.add_right_comm, List.range'_append_1]

theorem clear_iff (fails : Nat → Bool) (k n : Nat) :
    clear fails k n = true ↔ ∀ i, k < i → i ≤ k + n → fails i = false := by
  simp only [clear, List.all_eq_true, List.mem_range'_1, Bool.not_eq_true', and_imp]
  exact forall_congr' fun i => imp_congr Iff.rfl (imp_congr (by rw [Nat.add_right_comm]; exact Nat.lt_succ_iff) Iff.rfl)

/-- sequencing: a run that needs `m` calls followed by one that needs `n`; `e` is where a failed call leads -/
theorem seq_eq {β} {fails : Nat → Bool} {k m n : Nat} {a : Tx} {b e : β} {g : Tx → β}
    (hg : g a = if clear fails (k + m) n then b else e) :
    (match (if clear fails k m then some a else none) with
      | none => e
      | some t => g t) = if clear fails k (m + n) then b else e := by
  rw [clear_add]
  cases clear fails k m
  · rfl
  · exact hg

/-- one call followed by a run that needs `n` (none, when `n = 0`: `clear … 0` computes to `true`) -/
theorem first_eq {β} {fails : Nat → Bool} {k n : Nat} {b e X : β}
    (h : X = if clear fails (k + 1) n then b else e) :
    (if fails (k + 1) then e else X) = if clear fails k (1 + n) then b else e := by
  rw [Nat.add_comm 1 n, clear_succ, h]
  cases fails (k + 1) <;> rfl

theorem exec_eq (fails : Nat → Bool) (t : Tx) (f : Db → Db) :
    t.exec fails f = if clear fails t.k 1 then some { work := f t.work, k := t.k + 1 } else none :=
  first_eq (n := 0) rfl

theorem execRows_eq {α} (fails : Nat → Bool) (f : Db → α → Db) (xs : List α) (t : Tx) :
    Tx.execRows fails f t xs =
      if clear fails t.k xs.length then some { work := xs.foldl f t.work, k := t.k + xs.length } else none := by
  induction xs generalizing t with
  | nil => simp [Tx.execRows, clear]
  | cons x xs ih =>
    rw [Tx.execRows, exec_eq, List.length_cons, Nat.add_comm xs.length 1]
    exact seq_eq (by rw [ih]; simp only [Nat.add_assoc, List.foldl_cons])

theorem foldl_addTag (xs : List (String × Int × SKey)) (db : Db) :
    xs.foldl Db.addTag db = { db with tags := db.tags ++ xs } := by
  induction xs generalizing db with
  | nil => simp
  | cons x xs ih => simp only [List.foldl_cons, ih, Db.addTag, List.append_assoc, List.singleton_append]

theorem foldl_addDelKey (xs : List (SKey × String)) (db : Db) :
    xs.foldl Db.addDelKey db = { db with delKeys := xs.foldl insertSet db.delKeys } := by
  induction xs generalizing db with
  | nil => simp
  | cons x xs ih => simp only [List.foldl_cons, ih, Db.addDelKey]

theorem foldl_addDelId (xs : List (String × String)) (db : Db) :
    xs.foldl Db.addDelId db = { db with delIds := xs.foldl insertSet db.delIds } := by
  induction xs generalizing db with
  | nil => simp
  | cons x xs ih => simp only [List.foldl_cons, ih, Db.addDelId]

/-- the statements that follow an upsert with `affected != 0`, all of them run -/
def afterUpsert (db : Db) (p : Params) : Db :=
  p.delIds.foldl Db.addDelId (p.delKeys.foldl Db.addDelKey (p.tagRows.foldl Db.addTag (db.addPayload p)))

theorem upsert_then_rest (db : Db) (p : Params) :
    (if (db.upsert p).2 then afterUpsert (db.upsert p).1 p else (db.upsert p).1) = db.insertOne p := by
  unfold Db.upsert afterUpsert
  rcases insertOne_cases db p with ⟨⟨old, hf, hr⟩, e⟩ | ⟨hf, e⟩ | ⟨old, hf, hr, e⟩
  · simp only [e, hf, hr, Bool.false_eq_true, if_false]
  · simp only [e, hf, if_true, foldl_addTag, foldl_addDelKey, foldl_addDelId, Db.addPayload]
  · simp only [e, hf, hr, if_true, foldl_addTag, foldl_addDelKey, foldl_addDelId, Db.addPayload]

/-- `n` stands before `fails`: the number of driver calls for an event depends on the working state only -/
theorem execEvent_eq (t : Tx) (p : Params) : ∃ n, ∀ fails : Nat → Bool,
    t.execEvent fails p =
      if clear fails t.k n then some { work := t.work.insertOne p, k := t.k + n } else none := by
  rw [← upsert_then_rest]
  simp only [Tx.execEvent]
  cases (t.work.upsert p).2 with
  | false => exact ⟨1 + 0, fun fails => first_eq rfl⟩
  | true =>
    refine ⟨1 + (1 + (p.tagRows.length + (p.delKeys.length + p.delIds.length))), fun fails => first_eq ?_⟩
    simp only [Bool.not_true, Bool.false_eq_true, if_false, if_true]
    rw [exec_eq]; refine seq_eq ?_
    rw [execRows_eq]; refine seq_eq ?_
    rw [execRows_eq]; refine seq_eq ?_
    rw [execRows_eq]; simp only [afterUpsert, Nat.add_assoc]

theorem execBatch_eq (ps : List Params) (t : Tx) : ∃ n, ∀ fails : Nat → Bool,
    Tx.execBatch fails t ps =
      if clear fails t.k n then some { work := ps.foldl Db.insertOne t.work, k := t.k + n } else none := by
  induction ps generalizing t with
  | nil => exact ⟨0, fun _ => rfl⟩
  | cons p ps ih =>
    obtain ⟨m, hm⟩ := execEvent_eq t p
    obtain ⟨n, hn⟩ := ih { work := t.work.insertOne p, k := t.k + m }
    refine ⟨m + n, fun fails => ?_⟩
    rw [Tx.execBatch, hm]
    exact seq_eq (by rw [hn]; simp only [Nat.add_assoc, List.foldl_cons])

theorem execEvent_work {fails : Nat → Bool} {t t' : Tx} {p : Params} (h : t.execEvent fails p = some t') :
    t'.work = t.work.insertOne p := by
  obtain ⟨n, hn⟩ := execEvent_eq t p
  rw [hn, Option.ite_none_right_eq_some] at h
  cases h.2
  rfl

theorem execBatch_work {fails : Nat → Bool} {ps : List Params} {t t' : Tx} (h : Tx.execBatch fails t ps = some t') :
    t'.work = ps.foldl Db.insertOne t.work := by
  obtain ⟨n, hn⟩ := execBatch_eq ps t
  rw [hn, Option.ite_none_right_eq_some] at h
  cases h.2
  rfl

theorem clear_nofault (k n : Nat) : clear (fun _ => false) k n = true := (clear_iff _ k n).2 fun _ _ _ => rfl

/-- the prologue: BeginTx and the five Prepare calls -/
theorem prologue_eq {β} {fails : Nat → Bool} {n : Nat} {b e X : β} (h : X = if clear fails 6 n then b else e) :
    (if !prologueOk fails then e else X) = if clear fails 0 (6 + n) then b else e := by
  have : prologueOk fails = clear fails 0 6 := by
    simp only [prologueOk, clear, Bool.not_or, Bool.and_assoc, List.range', List.all_cons, List.all_nil, Bool.and_true]
  rw [this, clear_add, h]
  cases clear fails 0 6 <;> rfl

theorem insertEventsTx_eq (db : Db) (fails : Nat → Bool) (evs : List Event) :
    db.insertEventsTx fails evs =
      if clear fails 0 (db.calls evs) then { db := db.insertBatch evs, ok := true } else { db := db, ok := false } := by
  unfold Db.insertEventsTx Db.calls Db.insertBatch
  cases hps : evs.filterMap buildParams with
  | nil => rfl
  | cons p ps =>
    obtain ⟨n, hn⟩ := execBatch_eq (p :: ps) { work := db, k := 6 }
    -- `hn` rewrites both runs of the batch, the one under `fails` and the fault-free one inside `Db.calls`, which
    -- `clear_nofault` lets through: `db.calls evs` becomes `6 + (n + 1)`
    simp only [List.isEmpty_cons, Bool.false_eq_true, if_false, hn, clear_nofault, if_true, Nat.add_assoc]
    -- `clear fails 0 (6 + (n + 1))` taken apart: BeginTx and the five Prepares, the `n` statements of the batch, Commit
    exact prologue_eq (seq_eq (first_eq (n := 0) rfl))

theorem all_or_nothing {r : TxResult} {c : Bool} {db db' : Db}
    (h : r = if c then { db := db', ok := true } else { db := db, ok := false }) :
    (r.ok = true ∧ r.db = db') ∨ (r.ok = false ∧ r.db = db) := by
  subst h
  cases c
  · exact .inr ⟨rfl, rfl⟩
  · exact .inl ⟨rfl, rfl⟩

/-- Atomicity as far as the function's own logic goes: that Rollback and a failed Commit restore the database is
    assumed in `Db.insertEventsTx`. -/
theorem tx_all_or_nothing (db : Db) (fails : Nat → Bool) (evs : List Event) :
    ((db.insertEventsTx fails evs).ok = true ∧ (db.insertEventsTx fails evs).db = db.insertBatch evs) ∨
    ((db.insertEventsTx fails evs).ok = false ∧ (db.insertEventsTx fails evs).db = db) :=
  all_or_nothing (insertEventsTx_eq db fails evs)

theorem tx_ok_no_fault_reached (db : Db) (fails : Nat → Bool) (evs : List Event)
    (hok : (db.insertEventsTx fails evs).ok = true) :
    ∀ k, 1 ≤ k → k ≤ db.calls evs → fails k = false := by
  rw [insertEventsTx_eq] at hok
  by_cases h : clear fails 0 (db.calls evs) = true
  · exact fun k h1 h2 => (clear_iff _ _ _).1 h k h1 (by rwa [Nat.zero_add])
  · rw [if_neg h] at hok
    cases hok

theorem tx_no_fault (db : Db) (evs : List Event) :
    db.insertEventsTx (fun _ => false) evs = { db := db.insertBatch evs, ok := true } := by
  rw [insertEventsTx_eq, clear_nofault, if_pos rfl]

theorem insertWithRetry_eq (db : Db) (plans : List (Nat → Bool)) (evs : List Event) :
    db.insertWithRetry plans evs =
      if plans.any (fun f => clear f 0 (db.calls evs)) then { db := db.insertBatch evs, ok := true }
      else { db := db, ok := false } := by
  induction plans with
  | nil => rfl
  | cons f rest ih =>
    rw [Db.insertWithRetry, insertEventsTx_eq, List.any_cons]
    cases clear f 0 (db.calls evs)
    · exact ih
    · rfl

theorem retry_all_or_nothing (db : Db) (plans : List (Nat → Bool)) (evs : List Event) :
    ((db.insertWithRetry plans evs).ok = true ∧ (db.insertWithRetry plans evs).db = db.insertBatch evs) ∨
    ((db.insertWithRetry plans evs).ok = false ∧ (db.insertWithRetry plans evs).db = db) :=
  all_or_nothing (insertWithRetry_eq db plans evs)

/-- `h` is for the case that an attempt had succeeded (`insertBatch_idempotent`) -/
theorem retry_then_success (db : Db) (plans : List (Nat → Bool)) (evs : List Event)
    (h : Coherent (db.events ++ (evs.filterMap buildParams).map (·.row))) :
    ((db.insertWithRetry plans evs).db.insertEventsTx (fun _ => false) evs).db = db.insertBatch evs := by
  rw [tx_no_fault, insertWithRetry_eq]
  cases plans.any fun f => clear f 0 (db.calls evs)
  · rfl
  · exact insertBatch_idempotent db evs h

/-- A stored version, visible or hidden by a deletion request, keeps every older or equally old version of its address
    out: the upsert looks at the `events` row only, tombstones play no part.  (Across a restart this needs the hidden
    rows to be still there, which only the run-time check sees.) -/
theorem older_version_never_stored (db : Db) (p : Params) (old : ERow)
    (h : db.events.find? (fun r => r.key == p.row.key) = some old) (hle : p.row.createdAt ≤ old.createdAt) :
    db.insertOne p = db :=
  settled_noop db p ⟨old, h, upsertReplaces_of_le hle⟩

theorem same_id_never_rewritten (db : Db) (p : Params) (old : ERow)
    (h : db.events.find? (fun r => r.key == p.row.key) = some old) (hid : old.id = p.row.id) :
    db.insertOne p = db :=
  settled_noop db p ⟨old, h, upsertReplaces_of_id hid⟩

/-! non-vacuity: the example batch of C14.lean needs 18 driver calls; a plan that fails the 9th or the 18th reports an
    error, one that fails none of them reports success -/
example : ({} : Db).calls exBatch = 18 := by decide +kernel
example : (({} : Db).insertEventsTx (fun k => k == 9) exBatch).ok = false := by decide +kernel
example : (({} : Db).insertEventsTx (fun k => k == 18) exBatch).ok = false := by decide +kernel   -- Commit fails
example : (({} : Db).insertEventsTx (fun k => k == 19) exBatch).ok = true := by decide +kernel

end Moc.C14
