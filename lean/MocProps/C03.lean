/-
  C03 — In-memory store: each query equals the filter spec over the retained set.

  Model: `Cache.find`, `scanLoop`, `Cache.findIdx`, `topkLoop`, `idxCandidate` (MocModel/Cache.lean).
  Here: the ordered-scan path is the `limit` first matches of the tree walk for every store content and filter
  (`scanLoop_eq`); the index path's candidate test is exactly the NIP-01 id/author/kind/tag conditions
  (`idxCandidate_eq`); the control flow of `Find` around the two paths (`find_cases`, `findStep_ok`).  The theorem
  about `Find` as a whole is in C03Find.lean.
-/
import MocProps.C02
import MocProps.CacheLemmas

namespace Moc.C03

/-- how many more events a limit-counting matcher at count `cnt` accepts (`none`: no limit) -/
def remaining (f : Filter) (cnt : Int) : Option Nat :=
  match f.limit with
  | none => none
  | some n => some (n - cnt).toNat

def takeOpt {α} : Option Nat → List α → List α
  | none, l => l
  | some n, l => l.take n

theorem takeOpt_sublist {α} (o : Option Nat) (l : List α) : (takeOpt o l).Sublist l := by
  cases o with
  | none => exact List.Sublist.refl l
  | some n => exact List.take_sublist n l

theorem done_iff_remaining_zero (f : Filter) (cnt : Int) :
    (LMatcher.done { f := f, cnt := cnt }) = true ↔ remaining f cnt = some 0 := by
  unfold LMatcher.done remaining Gen.limitDone
  cases f.limit with
  | none => exact iff_of_false Bool.false_ne_true fun h => nomatch h
  | some n =>
    simp only [Option.isSome_some, Option.getD_some, Bool.true_and, decide_eq_true_eq, Option.some.injEq]
    exact ⟨fun h => Int.toNat_eq_zero.2 (Int.sub_nonpos_of_le h), fun h => Int.le_of_sub_nonpos (Int.toNat_eq_zero.1 h)⟩

theorem takeOpt_remaining_cons {α} (f : Filter) (cnt : Int) (h : remaining f cnt ≠ some 0) (a : α) (l : List α) :
    takeOpt (remaining f cnt) (a :: l) = a :: takeOpt (remaining f (cnt + 1)) l := by
  cases hl : f.limit with
  | none => simp only [remaining, hl]; rfl
  | some n =>
    simp only [remaining, hl, ne_eq, Option.some.injEq] at h ⊢
    rw [← Int.sub_sub, show (n - cnt - 1).toNat = (n - cnt).toNat - 1 from Int.toNat_sub' _ 1]
    cases hk : (n - cnt).toNat with
    | zero => exact absurd hk h
    | succ k => rfl

theorem scanLoop_eq (f : Filter) (hwf : f.WF) (es : List Event) (hne : ∀ e ∈ es, C02.TagsNonEmpty e) :
    ∀ cnt : Int, scanLoop { f := f, cnt := cnt } es =
      .ok (takeOpt (remaining f cnt) (es.filter (nip01MatchB f ·))) := by
  induction es with
  | nil =>
    intro cnt
    cases remaining f cnt <;> simp [scanLoop, takeOpt]
  | cons e es ih =>
    intro cnt
    have he := C02.matchOne_eq_spec f e hwf (hne e List.mem_cons_self)
    have hes : ∀ e' ∈ es, C02.TagsNonEmpty e' := fun e' h => hne e' (List.mem_cons_of_mem _ h)
    unfold scanLoop
    by_cases hd : (LMatcher.done { f := f, cnt := cnt }) = true
    · rw [if_pos hd, (done_iff_remaining_zero f cnt).1 hd]; rfl
    · rw [if_neg hd]
      simp only [LMatcher.limitMatch, he, Gen.limitMatchCounts, List.filter_cons]
      by_cases hm : nip01MatchB f e = true
      · simp only [hm, if_true, ih hes (cnt + 1),
          takeOpt_remaining_cons f cnt (fun h => hd ((done_iff_remaining_zero f cnt).2 h))]
      · simp only [hm, Bool.false_eq_true, if_false, ih hes cnt]

theorem scanLoop_sublist (f : Filter) (hwf : f.WF) (es : List Event) (hne : ∀ e ∈ es, C02.TagsNonEmpty e) :
    ∃ r, scanLoop { f := f } es = .ok r ∧ List.Sublist r es ∧ ∀ e ∈ r, nip01Match f e :=
  ⟨_, scanLoop_eq f hwf es hne 0, (takeOpt_sublist _ _).trans List.filter_sublist, fun e he =>
    (C02.nip01MatchB_iff f e).1 (List.mem_filter.1 ((takeOpt_sublist _ _).subset he)).2⟩

theorem idxValue_eq (t : List String) : (if Gen.idxTagHasValue t.length then t.getD 1 "" else "") = tagValue t := by
  match t with
  | [] => rfl
  | [_] => rfl
  | _ :: _ :: r => exact if_pos (decide_eq_true (Int.ofNat_le.2 (Nat.le_add_left 2 r.length)))

/-- the left side is the per-tag function of `idxTagPairs` (`keysFromEvent`) -/
theorem idxPair_iff (t : List String) (k v : String) (hk : k.utf8ByteSize = 1) :
    (if Gen.idxSkipsEmptyTag t.length then none
     else if Gen.idxSkipsLongName (t.headD "").utf8ByteSize then none
     else some (t.headD "", if Gen.idxTagHasValue t.length then t.getD 1 "" else "")) = some (k, v) ↔
    tagName? t = some k ∧ tagValue t = v := by
  rw [idxValue_eq]
  cases t with
  | nil => exact ⟨fun h => (nomatch h), fun h => (nomatch h.1)⟩
  | cons n r =>
    have h0 : Gen.idxSkipsEmptyTag ((n :: r).length) = false :=
      beq_eq_false_iff_ne.2 (Int.natCast_ne_zero.2 (Nat.succ_ne_zero _))
    rw [h0, if_neg Bool.false_ne_true, List.headD_cons]
    constructor
    · intro h
      by_cases hn : Gen.idxSkipsLongName n.utf8ByteSize = true
      · rw [if_pos hn] at h; cases h
      · rw [if_neg hn] at h; cases h; exact ⟨rfl, rfl⟩
    · rintro ⟨hn, rfl⟩
      cases hn
      rw [if_neg (by simp [Gen.idxSkipsLongName, hk])]

theorem mem_idxTagPairs (e : Event) (k v : String) (hk : k.utf8ByteSize = 1) :
    (k, v) ∈ idxTagPairs e ↔ ∃ t ∈ e.tags, tagName? t = some k ∧ tagValue t = v := by
  simp only [idxTagPairs, List.mem_filterMap, idxPair_iff _ k v hk]

/-- `hnames` is what `ReqFilter.Valid` guarantees; without it the two sides differ, since `keysFromEvent` indexes only
    tags whose name is one byte long. -/
theorem idxCandidate_eq (f : Filter) (e : Event)
    (hnames : ∀ l, f.tags = some l → ∀ c ∈ l, c.1.utf8ByteSize = 1) :
    idxCandidate f e = (listedOr true f.ids e.id && listedOr true f.authors e.pubkey &&
      listedOr true f.kinds e.kind && tagsOkB f.tags e) := by
  unfold idxCandidate tagsOkB
  congr 1
  cases ht : f.tags with
  | none => rfl
  | some l =>
    exact all_congr_on l _ _ fun c hc => C02.any_eq_hasTagB e c.1 c.2 _ fun v => by
      rw [List.contains_iff_mem, mem_idxTagPairs e c.1 v (hnames l ht c hc)]

theorem find_cases (c : Cache) (perm : List Event → List Event) (fs : List Filter) :
    c.evs = [] ∧ c.find perm fs = .ok [] ∨ c.evs ≠ [] ∧ c.find perm fs = fs.foldl (c.findStep perm) (.ok []) := by
  unfold Cache.find Gen.findEmpty
  cases c.evs with
  | nil => exact Or.inl ⟨rfl, rfl⟩
  | cons x xs =>
    exact Or.inr ⟨List.cons_ne_nil x xs, if_neg (mt beq_iff_eq.1 (Int.natCast_ne_zero.2 (Nat.succ_ne_zero _)))⟩

/-- one filter whose path (scan or index) answers `es`: `es` is merged into the tree -/
theorem findStep_ok {c : Cache} {perm : List Event → List Event} {f : Filter} {es : List Event}
    (h : (if isFullScanFilter f then scanLoop { f := f } c.byTime else c.findIdx perm f) = .ok es) (tree : List Event) :
    c.findStep perm (.ok tree) f = .ok (es.foldl (fun t e => insertOrd e t) tree) := by
  rw [Cache.findStep, h]

theorem find_empty_store (cap : Int) (perm : List Event → List Event) (fs : List Filter) :
    Cache.find { cap := cap } perm fs = .ok [] :=
  (find_cases { cap := cap } perm fs).elim And.right fun h => absurd rfl h.1

end Moc.C03
