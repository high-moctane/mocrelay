/-
  C09 — merged EVENT and COUNT: exactly one aggregated reply per request.

  Model: `MergeSt.client` / `sendOK` / `sendCount` (MocModel/Merge.lean) = `handleRecvEventMsg`,
  `handleRecvCountMsg`, `handleSendOKMsg`, `handleSendCountMsg` and the two pending tables of handler.go; every
  test is regenerated from the source.  The table of one event id (subscription id) is a list of rows, one per
  request in flight, oldest first, one slot per child.

  Here: what an aggregated reply says, for any row (`joinOK_verdict`, `joinOK_reason`, `maxCount_spec`), and one step: a
  child's reply goes into the oldest row of its key that the child has not answered, the client receives the aggregate
  exactly when that completes the oldest row (`sendOK_out`, `sendCount_out`), and the three tables do not touch each other.
  Exactly one reply per request over every history and interleaving: `replies_exactly_once` (C09Table.lean, the table of
  one key as a state machine over `req` / `reply i v`), lifted to sessions in C09Trace.lean and C09TraceCount.lean.
  As for C08, that real executions are sequences of these atomic steps is read off the code and validated at run time.
-/
import MocModel.Merge
import MocProps.C09Table

namespace Moc.C09

theorem merge_source_pinned : mergeActualSource = mergeExpectedSource := rfl

/-- the Go bodies of the four `handleRecv…Msg`: each touches the one table `MergeSt.client` gives it -/
theorem merge_recv_pinned : mergeRecvActual = mergeRecvExpected := rfl

theorem joinPick_all_accept (row : List OKMsg) (hall : row.all (·.accepted) = true) : joinPick row = row := by
  have hacc : ∀ m ∈ row, m.accepted = true := List.all_eq_true.1 hall
  have hng : row.filter (fun m => !Gen.okMsgAccepted m.accepted) = [] :=
    List.filter_eq_nil_iff.2 fun m hm => by simp [Gen.okMsgAccepted, hacc m hm]
  rw [joinPick, hng, if_neg (by decide)]
  exact List.filter_eq_self.2 hacc

theorem joinPick_some_reject (row : List OKMsg) (r : OKMsg) (hfind : row.find? (fun m => !m.accepted) = some r) :
    ∃ rs, joinPick row = r :: rs ∧ r ∈ row ∧ r.accepted = false := by
  have hhead : (row.filter (fun m => !Gen.okMsgAccepted m.accepted)).head? = some r := by
    rw [← hfind, List.head?_filter]; rfl
  cases hf : row.filter (fun m => !Gen.okMsgAccepted m.accepted) with
  | nil => rw [hf] at hhead; cases hhead
  | cons r' rs =>
    rw [hf] at hhead
    cases hhead
    obtain ⟨hmem, hacc⟩ := List.mem_filter.1 (hf ▸ List.mem_cons_self : r ∈ _)
    exact ⟨rs, by rw [joinPick, hf, if_pos (by simp [Gen.okMsgRejected])], hmem, by simpa [Gen.okMsgAccepted] using hacc⟩

theorem joinPick_cases (row : List OKMsg) :
    (row.all (·.accepted) = true ∧ joinPick row = row) ∨
    ∃ r rs, row.find? (fun m => !m.accepted) = some r ∧ joinPick row = r :: rs ∧ r ∈ row ∧ r.accepted = false := by
  cases hf : row.find? (fun m => !m.accepted) with
  | none =>
    have hall : row.all (·.accepted) = true :=
      List.all_eq_true.2 fun m hm => by simpa using List.find?_eq_none.1 hf m hm
    exact .inl ⟨hall, joinPick_all_accept row hall⟩
  | some r =>
    obtain ⟨rs, h⟩ := joinPick_some_reject row r hf
    exact .inr ⟨r, rs, rfl, h⟩

/-- One OK with the event's id, accepting iff every child accepted.  `hid`: the rows under key `x` hold only replies with
    id `x`, since `sendOK` files a reply under its id. -/
theorem joinOK_verdict (x : String) (row : List OKMsg) (hne : row ≠ []) (hid : ∀ m ∈ row, m.id = x) :
    ∃ text, joinOK row = some (.ok x (row.all (·.accepted)) "" text) := by
  rcases joinPick_cases row with ⟨hall, hp⟩ | ⟨r, rs, -, hp, hmem, hacc⟩ <;> rw [joinOK, hp]
  · cases row with
    | nil => exact absurd rfl hne
    | cons m ms =>
      rw [hall, joinOf, hid m List.mem_cons_self, (Bool.and_eq_true _ _ ▸ hall : m.accepted = true ∧ _).1]
      exact ⟨_, rfl⟩
  · have hallf : row.all (·.accepted) = false :=
      Bool.eq_false_iff.2 fun h => by simpa [hacc] using List.all_eq_true.1 h r hmem
    rw [hallf, joinOf, hid r hmem, hacc]
    exact ⟨_, rfl⟩

theorem joinOK_isSome (row : List OKMsg) (h : row ≠ []) : (joinOK row).isSome = true := by
  rcases joinPick_cases row with ⟨-, hp⟩ | ⟨r, rs, -, hp, -⟩ <;> rw [joinOK, hp]
  · cases row with
    | nil => exact absurd rfl h
    | cons m ms => rfl
  · rfl

/-- When some child rejected, the text of the aggregated OK begins with the first rejecting child's reason (`text` =
    prefix ++ message), so its machine-readable prefix survives. -/
theorem joinOK_reason (row : List OKMsg) (r : OKMsg) (hfind : row.find? (fun m => !m.accepted) = some r) :
    ∃ text, joinOK row = some (.ok r.id false "" text) ∧ r.text.toList <+: text.toList := by
  obtain ⟨rs, hp, _, hacc⟩ := joinPick_some_reject row r hfind
  refine ⟨String.join ((r :: rs).map (·.text)), by simp only [joinOK, hp, joinOf, hacc], ?_⟩
  simp only [List.map_cons, String.join_cons, String.toList_append]
  exact List.prefix_append _ _

theorem maxCount_spec (l : List (String × Nat × Option Bool)) (hne : l ≠ []) :
    ∃ x, maxCount l = some x ∧ x ∈ l ∧ ∀ y ∈ l, y.2.1 ≤ x.2.1 := by
  induction l with
  | nil => exact absurd rfl hne
  | cons a as ih =>
    rw [maxCount]
    cases as with
    | nil => exact ⟨a, rfl, List.mem_cons_self, fun y hy => by rw [List.mem_singleton.1 hy]; exact Nat.le_refl _⟩
    | cons b bs =>
      obtain ⟨x, hx, hmem, hmax⟩ := ih (List.cons_ne_nil _ _)
      rw [hx]
      dsimp only
      by_cases hlt : a.2.1 < x.2.1
      · exact ⟨x, if_pos hlt, List.mem_cons_of_mem _ hmem, fun y hy =>
          (List.mem_cons.1 hy).elim (fun h => h ▸ Nat.le_of_lt hlt) (hmax y)⟩
      · exact ⟨a, if_neg hlt, List.mem_cons_self, fun y hy =>
          (List.mem_cons.1 hy).elim (fun h => h ▸ Nat.le_refl _) fun h => Nat.le_trans (hmax y h) (Nat.le_of_not_lt hlt)⟩

/-- A child's OK goes into the oldest row of its event id that the child has not answered (`fillFirst`); the client receives
    something only when that completes the OLDEST row, and then the aggregate of that row. -/
theorem sendOK_out (st : MergeSt) (i : Nat) (m : OKMsg) :
    (sendOK st i m).2 =
      match fillFirst Gen.okSetMsgFree ((alGet st.ok m.id).getD []) i m with
      | [] => none
      | r :: _ => if r.contains none then none else joinOK (r.filterMap id) := by
  rw [sendOK_eq, tblReply,
    show fillFirst Gen.okSetMsgFree ((alGet st.ok m.id).getD []) i m = fill ((alGet st.ok m.id).getD []) i m from rfl]
  cases fill ((alGet st.ok m.id).getD []) i m with
  | nil => rfl
  | cons r rest => dsimp only; rw [contains_none]; cases rowFull r <;> rfl

/-- for the reply's own id see `tblReply_step`, `popRow_self` -/
theorem sendOK_table (st : MergeSt) (i : Nat) (m : OKMsg) (k : String) (hk : k ≠ m.id) :
    alGet (sendOK st i m).1.ok k = alGet st.ok k := by
  rw [sendOK_eq]; exact tblReply_ne st.ok m.id i m hk

theorem sendCount_out (st : MergeSt) (i : Nat) (sub : String) (n : Nat) (a : Option Bool) :
    (sendCount st i sub n a).2 =
      match fillFirst Gen.cntSetFree ((alGet st.cnt sub).getD []) i (sub, n, a) with
      | [] => none
      | r :: _ => if r.contains none then none else (maxCount (r.filterMap id)).map fun x => .count x.1 x.2.1 x.2.2 := by
  rw [sendCount_eq, tblReply, show fillFirst Gen.cntSetFree ((alGet st.cnt sub).getD []) i (sub, n, a) =
    fill ((alGet st.cnt sub).getD []) i (sub, n, a) from rfl]
  cases fill ((alGet st.cnt sub).getD []) i (sub, n, a) with
  | nil => rfl
  | cons r rest => dsimp only; rw [contains_none]; cases rowFull r <;> rfl

theorem joinOK_shape (row : List OKMsg) (o : ServerMsg) (h : joinOK row = some o) : ∃ a b c d, o = .ok a b c d := by
  rw [joinOK] at h
  cases hp : joinPick row with
  | nil => rw [hp] at h; cases h
  | cons x xs => rw [hp] at h; exact ⟨_, _, _, _, (Option.some.inj h).symm⟩

theorem sendOK_shape (st : MergeSt) (i : Nat) (m : OKMsg) (o : ServerMsg) (h : (sendOK st i m).2 = some o) :
    ∃ a b c d, o = .ok a b c d := by
  rw [sendOK_eq] at h
  obtain ⟨row, -, h⟩ := Option.bind_eq_some_iff.1 h
  exact joinOK_shape row o h

theorem sendCount_shape (st : MergeSt) (i : Nat) (sub : String) (n : Nat) (a : Option Bool) (o : ServerMsg)
    (h : (sendCount st i sub n a).2 = some o) : ∃ a b c, o = .count a b c := by
  rw [sendCount_eq] at h
  obtain ⟨row, -, h⟩ := Option.bind_eq_some_iff.1 h
  obtain ⟨x, -, rfl⟩ := Option.map_eq_some_iff.1 h
  exact ⟨_, _, _, rfl⟩

theorem client_event_row (st : MergeSt) (e : Event) :
    alGet (st.client (.event e)).ok e.id = some ((alGet st.ok e.id).getD [] ++ [List.replicate st.n none]) :=
  alGet_alSet_self _ _ _

theorem client_count_row (st : MergeSt) (sub : String) (fs : List Filter) :
    alGet (st.client (.count sub fs)).cnt sub = some ((alGet st.cnt sub).getD [] ++ [List.replicate st.n none]) :=
  alGet_alSet_self _ _ _

/-! non-vacuity: two children, the same id twice in flight, replies interleaved -/
def exM (acc : Bool) (t : String) : OKMsg := { id := "x", accepted := acc, text := t }
def exEv : Event := { id := "x", pubkey := "p", createdAt := 1, kind := 1, tags := [], content := "", sig := "" }
def exTrace : List MStep :=
  [.client (.event exEv), .client (.event exEv),
   .child 0 (.ok "x" true "" ""), .child 0 (.ok "x" false "blocked: " "no"),
   .child 1 (.ok "x" true "" "a"), .child 1 (.ok "x" true "" "b")]
example : (runMerge { n := 2 } exTrace).2 = [.ok "x" true "" "a", .ok "x" false "" "blocked: no"] := by decide

/-- a COUNT or an EVENT in flight under the id that the client CLOSEs keeps its row (seed C09-G breaks this) -/
theorem close_leaves_pending (st : MergeSt) (sub : String) :
    (st.client (.close sub)).cnt = st.cnt ∧ (st.client (.close sub)).ok = st.ok := ⟨rfl, rfl⟩

/-- in particular a CLOSED that answers a REQ does not release a pending COUNT of the same id (seed C09-I breaks this) -/
theorem child_closed_inert (st : MergeSt) (i : Nat) (sub pfx msg : String) :
    st.child i (.closed sub pfx msg) = (st, .ok (some (.closed sub pfx msg))) := rfl

theorem child_notice_inert (st : MergeSt) (i : Nat) (msg : String) :
    st.child i (.notice msg) = (st, .ok (some (.notice msg))) := rfl

theorem req_count_separate (st : MergeSt) (sub : String) (fs : List Filter) :
    (st.client (.req sub fs)).cnt = st.cnt ∧ (st.client (.count sub fs)).req = st.req := ⟨rfl, rfl⟩

end Moc.C09
