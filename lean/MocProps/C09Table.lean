/-
  C09, the pending tables.  (1) The table of ONE key as a state machine over `req` / `reply i v` (`tblStep`, `runTbl`) and its
  counting invariant (`Rel`), from which `replies_exactly_once`.  (2) The keyed table inside a session: `handleSendOKMsg`
  and `handleSendCountMsg` are the same code on two tables (`tblReply`), a child message touches only the table of its kind
  (`child_tables`), and a session's trace, watched at one key of one table, is a run of the one-key machine (`sim_run`).
-/
import MocModel.Merge
import MocProps.MergeLemmas
namespace Moc.C09

variable {α : Type}

/-- child `j` has answered the request of this row -/
def filled (row : List (Option α)) (j : Nat) : Bool :=
  match row[j]? with
  | some (some _) => true
  | _ => false

/-- `Ready`'s test on the oldest row, `!slices.Contains(rows[0], nil)` (`contains_none`) -/
def rowFull (row : List (Option α)) : Bool := row.all Option.isSome

theorem filled_eq_isSome (row : List (Option α)) (j : Nat) (hj : j < row.length) : filled row j = row[j].isSome := by
  unfold filled
  rw [List.getElem?_eq_getElem hj]
  cases row[j] <;> rfl

theorem filled_set_self (row : List (Option α)) (i : Nat) (v : α) (h : i < row.length) :
    filled (row.set i (some v)) i = true := by
  simp [filled, h]

theorem filled_set_ne (row : List (Option α)) (i j : Nat) (x : Option α) (h : j ≠ i) :
    filled (row.set i x) j = filled row j := by
  simp [filled, Ne.symm h]

theorem filled_lt (row : List (Option α)) (j : Nat) (h : filled row j = true) : j < row.length := by
  unfold filled at h
  cases hg : row[j]? with
  | none => rw [hg] at h; cases h
  | some x => exact (List.getElem?_eq_some_iff.1 hg).1

theorem filled_mono (row : List (Option α)) (i j : Nat) (v : α) (h : filled row j = true) :
    filled (row.set i (some v)) j = true := by
  by_cases hj : j = i
  · exact hj ▸ filled_set_self row j v (filled_lt row j h)
  · rw [filled_set_ne row i j _ hj]; exact h

theorem filled_eq_not_free (row : List (Option α)) (i : Nat) (hi : i < row.length) : filled row i = !slotFree row i := by
  unfold filled slotFree
  rw [List.getElem?_eq_getElem hi]
  cases row[i] <;> rfl

theorem rowFull_iff (row : List (Option α)) : rowFull row = true ↔ ∀ j, j < row.length → filled row j = true := by
  rw [rowFull, List.all_eq_true]
  constructor
  · intro h j hj
    rw [filled_eq_isSome row j hj]
    exact h _ (List.getElem_mem hj)
  · intro h x hx
    obtain ⟨j, hj, rfl⟩ := List.getElem_of_mem hx
    rw [← filled_eq_isSome row j hj]
    exact h j hj

theorem replicate_not_filled (n j : Nat) : filled (List.replicate n (none : Option α)) j = false := by
  unfold filled
  rw [List.getElem?_replicate]
  by_cases h : j < n
  · rw [if_pos h]
  · rw [if_neg h]

/-- how many of the pending rows child `j` has answered -/
def answered (j : Nat) (rows : List (List (Option α))) : Nat := rows.countP (filled · j)

/-- `SetMsg` / `SetCountMsg`: `fillFirst` with the test of the Go code (`msgs[chIdx] == nil`, regenerated as the identity
    on `slotFree`) put in -/
abbrev fill (rows : List (List (Option α))) (i : Nat) (v : α) := fillFirst (fun b => b) rows i v

theorem fill_cases (rows : List (List (Option α))) (i : Nat) (v : α) :
    ((∀ r ∈ rows, slotFree r i = false) ∧ fill rows i v = rows) ∨
    ∃ a x b, rows = a ++ x :: b ∧ (∀ r ∈ a, slotFree r i = false) ∧ slotFree x i = true ∧
      fill rows i v = a ++ x.set i (some v) :: b := by
  induction rows with
  | nil => exact .inl ⟨List.forall_mem_nil _, rfl⟩
  | cons r rest ih =>
    simp only [fill, fillFirst] at ih ⊢
    by_cases hf : slotFree r i = true
    · rw [if_pos hf]
      exact .inr ⟨[], r, rest, rfl, List.forall_mem_nil _, hf, rfl⟩
    · rw [if_neg hf]
      have hf' : slotFree r i = false := by simpa using hf
      rcases ih with ⟨h1, h2⟩ | ⟨a, x, b, rfl, ha, hx, h2⟩
      · exact .inl ⟨List.forall_mem_cons.2 ⟨hf', h1⟩, by rw [h2]⟩
      · exact .inr ⟨r :: a, x, b, rfl, List.forall_mem_cons.2 ⟨hf', ha⟩, hx, by rw [h2]; rfl⟩

theorem length_fill (rows : List (List (Option α))) (i : Nat) (v : α) : (fill rows i v).length = rows.length := by
  rcases fill_cases rows i v with ⟨-, h⟩ | ⟨a, x, b, rfl, -, -, h⟩ <;> rw [h]
  simp only [List.length_append, List.length_cons]

theorem fill_len (n : Nat) (rows : List (List (Option α))) (i : Nat) (v : α) (h : ∀ r ∈ rows, r.length = n) :
    ∀ r ∈ fill rows i v, r.length = n := by
  rcases fill_cases rows i v with ⟨-, e⟩ | ⟨a, x, b, rfl, -, -, e⟩ <;> rw [e]
  · exact h
  · obtain ⟨ha, hxb⟩ := List.forall_mem_append.1 h
    obtain ⟨hx, hb⟩ := List.forall_mem_cons.1 hxb
    exact List.forall_mem_append.2 ⟨ha, List.forall_mem_cons.2 ⟨(List.length_set ..).trans hx, hb⟩⟩

theorem answered_fill_other (rows : List (List (Option α))) (i j : Nat) (v : α) (hj : j ≠ i) :
    answered j (fill rows i v) = answered j rows := by
  rcases fill_cases rows i v with ⟨-, e⟩ | ⟨a, x, b, rfl, -, -, e⟩ <;> rw [e]
  simp only [answered, List.countP_append, List.countP_cons, filled_set_ne x i j _ hj]

theorem answered_fill_self (n : Nat) (rows : List (List (Option α))) (i : Nat) (v : α) (hi : i < n)
    (hl : ∀ r ∈ rows, r.length = n) (h : answered i rows < rows.length) :
    answered i (fill rows i v) = answered i rows + 1 := by
  rcases fill_cases rows i v with ⟨hnf, -⟩ | ⟨a, x, b, rfl, -, hx, e⟩
  · have : answered i rows = rows.length :=
      List.countP_eq_length.2 fun r hr => by rw [filled_eq_not_free r i (hl r hr ▸ hi), hnf r hr]; rfl
    exact absurd h (this ▸ Nat.lt_irrefl _)
  · have hxl : i < x.length := hl x (List.mem_append_right _ List.mem_cons_self) ▸ hi
    rw [e]
    simp only [answered, List.countP_append, List.countP_cons, filled_set_self x i v hxl, filled_eq_not_free x i hxl, hx,
      Bool.not_true, if_true, Bool.false_eq_true, if_false]
    omega

/-- later rows are answered only where earlier rows are: each child answers its requests oldest first -/
def Pre (rows : List (List (Option α))) : Prop :=
  rows.Pairwise (fun r r' => ∀ j, filled r' j = true → filled r j = true)

theorem fill_pre (n : Nat) (rows : List (List (Option α))) (i : Nat) (v : α) (hi : i < n)
    (hl : ∀ r ∈ rows, r.length = n) (hp : Pre rows) : Pre (fill rows i v) := by
  rcases fill_cases rows i v with ⟨-, e⟩ | ⟨a, x, b, rfl, ha, -, e⟩ <;> rw [e]
  · exact hp
  · obtain ⟨hpa, hpb, hab⟩ := List.pairwise_append.1 hp
    obtain ⟨hxb, hpb⟩ := List.pairwise_cons.1 hpb
    refine List.pairwise_append.2 ⟨hpa, List.pairwise_cons.2 ⟨fun r' hr' j hj => filled_mono x i j v (hxb r' hr' j hj), hpb⟩,
      fun r hr r' hr' j hj => ?_⟩
    rcases List.mem_cons.1 hr' with rfl | hr'
    · by_cases hji : j = i
      · rw [hji, filled_eq_not_free r i (hl r (List.mem_append_left _ hr) ▸ hi), ha r hr]; rfl
      · rw [filled_set_ne x i j _ hji] at hj
        exact hab r hr x List.mem_cons_self j hj
    · exact hab r hr r' (List.mem_cons_of_mem _ hr') j hj

/-- the rows of one key between two steps: one slot per child, answered oldest first, and none complete (a row is sent
    and dropped by the step that completes it) -/
structure Inv (n : Nat) (rows : List (List (Option α))) : Prop where
  len : ∀ r ∈ rows, r.length = n
  pre : Pre rows
  nfull : ∀ r ∈ rows, rowFull r = false

theorem inv_nil (n : Nat) : Inv n ([] : List (List (Option α))) :=
  ⟨by simp, by simp [Pre], by simp⟩

theorem full_of_later (n : Nat) (r x : List (Option α)) (hr : r.length = n) (hx : x.length = n)
    (h : ∀ j, filled x j = true → filled r j = true) (hf : rowFull x = true) : rowFull r = true :=
  (rowFull_iff r).2 fun j hj => h j ((rowFull_iff x).1 hf j (hx ▸ hr ▸ hj))

theorem addRow_len (n : Nat) (rows : List (List (Option α))) (h : ∀ r ∈ rows, r.length = n) :
    ∀ r ∈ addRow rows n, r.length = n :=
  List.forall_mem_append.2 ⟨h, fun r hr => by rw [List.mem_singleton.1 hr, List.length_replicate]⟩

theorem addRow_inv (n : Nat) (hn : 0 < n) (rows : List (List (Option α))) (h : Inv n rows) : Inv n (addRow rows n) := by
  refine ⟨addRow_len n rows h.len, ?_, ?_⟩
  · refine List.pairwise_append.2 ⟨h.pre, List.pairwise_singleton _ _, fun a _ b hb j hj => ?_⟩
    rw [List.mem_singleton.1 hb, replicate_not_filled] at hj
    cases hj
  · intro r hr
    rcases List.mem_append.1 hr with hr | hr
    · exact h.nfull r hr
    · rw [List.mem_singleton.1 hr]
      cases n with
      | zero => cases hn
      | succ m => rfl

inductive TOp (α : Type) where
  | req
  | reply (i : Nat) (v : α)

/-- `handleRecv…Msg` / `handleSend…Msg` seen at one key (`addRow_sim`, `tblReply_step`); the output is the completed oldest
    row, of which the client receives the aggregate -/
def tblStep (n : Nat) (rows : List (List (Option α))) : TOp α → List (List (Option α)) × Option (List α)
  | .req => (addRow rows n, none)
  | .reply i v =>
    match fill rows i v with
    | [] => ([], none)
    | r :: rest => if rowFull r then (rest, some (r.filterMap id)) else (r :: rest, none)

/-- `Ready`, `Msg` and `Clear…ID` on the rows of one key: the oldest row leaves, and is the output, when it is complete -/
def pop : List (List (Option α)) → List (List (Option α)) × Option (List α)
  | [] => ([], none)
  | r :: rest => if rowFull r then (rest, some (r.filterMap id)) else (r :: rest, none)

theorem tblStep_reply (n : Nat) (rows : List (List (Option α))) (i : Nat) (v : α) :
    tblStep n rows (.reply i v) = pop (fill rows i v) := by
  simp only [tblStep]
  cases fill rows i v <;> rfl

theorem pop_cases (rows : List (List (Option α))) :
    pop rows = (rows, none) ∨ ∃ r rest, rows = r :: rest ∧ rowFull r = true ∧ pop rows = (rest, some (r.filterMap id)) := by
  cases rows with
  | nil => exact .inl rfl
  | cons r rest =>
    by_cases hf : rowFull r = true
    · exact .inr ⟨r, rest, rfl, hf, if_pos hf⟩
    · exact .inl (if_neg hf)

theorem pop_length (rows : List (List (Option α))) : (pop rows).1.length + (pop rows).2.toList.length = rows.length := by
  rcases pop_cases rows with e | ⟨r, rest, rfl, -, e⟩ <;> rw [e] <;> rfl

theorem pop_mem (rows : List (List (Option α))) : ∀ r ∈ (pop rows).1, r ∈ rows := by
  rcases pop_cases rows with e | ⟨r, rest, rfl, -, e⟩ <;> rw [e]
  · exact fun _ h => h
  · exact fun x hx => List.mem_cons_of_mem _ hx

theorem pop_out (rows : List (List (Option α))) (row : List α) (h : (pop rows).2 = some row) :
    ∃ r ∈ rows, rowFull r = true ∧ row = r.filterMap id := by
  rcases pop_cases rows with e | ⟨r, rest, rfl, hf, e⟩ <;> rw [e] at h
  · cases h
  · exact ⟨r, List.mem_cons_self, hf, (Option.some.inj h).symm⟩

theorem pop_answered (n j : Nat) (hj : j < n) (rows : List (List (Option α))) (hl : ∀ r ∈ rows, r.length = n) :
    answered j (pop rows).1 + (pop rows).2.toList.length = answered j rows := by
  rcases pop_cases rows with e | ⟨r, rest, rfl, hf, e⟩ <;> rw [e]
  · rfl
  · -- a complete row counts for every child
    have := (rowFull_iff r).1 hf j (hl r List.mem_cons_self ▸ hj)
    exact (List.countP_cons_of_pos (p := (filled · j)) this).symm

theorem tblStep_len (n : Nat) (rows : List (List (Option α))) (op : TOp α) (h : ∀ r ∈ rows, r.length = n) :
    ∀ r ∈ (tblStep n rows op).1, r.length = n := by
  cases op with
  | req => exact addRow_len n rows h
  | reply i v =>
    rw [tblStep_reply]
    exact fun r hr => fill_len n rows i v h r (pop_mem _ r hr)

theorem tblStep_out_ne_nil (n : Nat) (hn : 0 < n) (rows : List (List (Option α))) (i : Nat) (v : α)
    (hlen : ∀ r ∈ rows, r.length = n) (row : List α) (h : (tblStep n rows (.reply i v)).2 = some row) : row ≠ [] := by
  rw [tblStep_reply] at h
  obtain ⟨r, hr, hf, rfl⟩ := pop_out _ _ h
  match r, hf, fill_len n rows i v hlen r hr with
  | some x :: xs, _, _ => exact List.cons_ne_nil _ _
  | [], _, hl => exact absurd hl (Nat.ne_of_lt hn)

theorem tblStep_reply_inv (n : Nat) (rows : List (List (Option α))) (i : Nat) (v : α) (hi : i < n) (h : Inv n rows) :
    Inv n (tblStep n rows (.reply i v)).1 := by
  have hlen := fill_len n rows i v h.len
  have hpre := fill_pre n rows i v hi h.len h.pre
  rw [tblStep_reply]
  cases hfr : fill rows i v with
  | nil => exact inv_nil n
  | cons r rest =>
    rw [hfr] at hlen hpre
    obtain ⟨hhead, htail⟩ := List.pairwise_cons.1 hpre
    by_cases hf : rowFull r = true
    · -- the head became full, so the reply went into the head: the rest is as before
      rw [pop, if_pos hf]
      refine ⟨fun x hx => hlen x (List.mem_cons_of_mem _ hx), htail, fun x hx => ?_⟩
      rcases fill_cases rows i v with ⟨-, e⟩ | ⟨a, y, b, rfl, -, -, e⟩ <;> rw [e] at hfr
      · exact absurd hf (Bool.eq_false_iff.1 (h.nfull r (hfr ▸ List.mem_cons_self)))
      · cases a with
        | nil => cases hfr; exact h.nfull x (List.mem_cons_of_mem _ hx)
        | cons a0 a' => cases hfr; exact absurd hf (Bool.eq_false_iff.1 (h.nfull r List.mem_cons_self))
    · rw [pop, if_neg hf]
      refine ⟨hlen, hpre, fun x hx => Bool.eq_false_iff.2 fun hxf => hf ?_⟩
      rcases List.mem_cons.1 hx with rfl | hx
      · exact hxf
      · exact full_of_later n r x (hlen r List.mem_cons_self) (hlen x (List.mem_cons_of_mem _ hx)) (hhead x hx) hxf

def runTbl (n : Nat) : List (List (Option α)) → List (TOp α) → List (List (Option α)) × List (List α)
  | rows, [] => (rows, [])
  | rows, op :: ops =>
    ((runTbl n (tblStep n rows op).1 ops).1, (tblStep n rows op).2.toList ++ (runTbl n (tblStep n rows op).1 ops).2)

theorem runTbl_append (n : Nat) (ops ops' : List (TOp α)) : ∀ rows : List (List (Option α)),
    runTbl n rows (ops ++ ops') =
      ((runTbl n (runTbl n rows ops).1 ops').1, (runTbl n rows ops).2 ++ (runTbl n (runTbl n rows ops).1 ops').2) := by
  induction ops with
  | nil => intro rows; rfl
  | cons op ops ih => intro rows; simp only [List.cons_append, runTbl, ih, List.append_assoc]

theorem runTbl_len (n : Nat) (ops : List (TOp α)) : ∀ rows : List (List (Option α)), (∀ r ∈ rows, r.length = n) →
    ∀ r ∈ (runTbl n rows ops).1, r.length = n := by
  induction ops with
  | nil => exact fun _ h => h
  | cons op ops ih => exact fun rows h => ih _ (tblStep_len n rows op h)

def reqs : List (TOp α) → Nat
  | [] => 0
  | .req :: ops => reqs ops + 1
  | .reply _ _ :: ops => reqs ops

def replies (j : Nat) : List (TOp α) → Nat
  | [] => 0
  | .req :: ops => replies j ops
  | .reply i _ :: ops => replies j ops + (if i = j then 1 else 0)

/-- the children behave: a child index is below `n` and a child answers a request only after it was made
    (`R` requests, `A j` answers of child `j` so far) -/
def Causal (n : Nat) : Nat → (Nat → Nat) → List (TOp α) → Prop
  | _, _, [] => True
  | R, A, .req :: ops => Causal n (R + 1) A ops
  | R, A, .reply i _ :: ops => i < n ∧ A i < R ∧ Causal n R (fun j => if j = i then A j + 1 else A j) ops

/-- `R` requests made, `A j` answers given by child `j`, `E` replies sent: rows pending + `E` = `R`, and the pending rows that
    child `j` has answered + `E` = `A j` -/
def Rel (n : Nat) (rows : List (List (Option α))) (R : Nat) (A : Nat → Nat) (E : Nat) : Prop :=
  Inv n rows ∧ rows.length + E = R ∧ ∀ j, j < n → answered j rows + E = A j

theorem addRow_rel (n : Nat) (hn : 0 < n) (rows : List (List (Option α))) (R : Nat) (A : Nat → Nat) (E : Nat)
    (h : Rel n rows R A E) : Rel n (addRow rows n) (R + 1) A E := by
  obtain ⟨hi, hl, hc⟩ := h
  refine ⟨addRow_inv n hn rows hi, ?_, fun j hj => ?_⟩
  · rw [addRow, List.length_append, List.length_singleton, Nat.add_right_comm, hl]
  · rw [answered, addRow, List.countP_append, List.countP_singleton, replicate_not_filled]
    exact hc j hj

theorem tblStep_reply_rel (n : Nat) (rows : List (List (Option α))) (R : Nat) (A : Nat → Nat) (E : Nat) (i : Nat) (v : α)
    (hi : i < n) (hA : A i < R) (h : Rel n rows R A E) :
    Rel n (tblStep n rows (.reply i v)).1 R (fun j => if j = i then A j + 1 else A j)
      (E + (tblStep n rows (.reply i v)).2.toList.length) := by
  obtain ⟨hinv, hl, hc⟩ := h
  refine ⟨tblStep_reply_inv n rows i v hi hinv, ?_, fun j hj => ?_⟩
  · rw [tblStep_reply, Nat.add_left_comm, pop_length, length_fill, Nat.add_comm, hl]
  · rw [tblStep_reply, Nat.add_left_comm, pop_answered n j hj _ (fill_len n rows i v hinv.len), Nat.add_comm]
    show _ = if j = i then A j + 1 else A j
    rw [← hc j hj]
    by_cases hji : j = i
    · subst hji
      have : answered j rows < rows.length := by have := hc j hj; omega
      rw [if_pos rfl, answered_fill_self n rows j v hj hinv.len this, Nat.add_right_comm]
    · rw [if_neg hji, answered_fill_other rows i j v hji]

theorem Rel.congr {n : Nat} {rows : List (List (Option α))} {R R' E E' : Nat} {A A' : Nat → Nat} (h : Rel n rows R A E)
    (hR : R = R') (hA : ∀ j, j < n → A j = A' j) (hE : E = E') : Rel n rows R' A' E' :=
  ⟨h.1, hR ▸ hE ▸ h.2.1, fun j hj => hA j hj ▸ hE ▸ h.2.2 j hj⟩

theorem runTbl_rel (n : Nat) (hn : 0 < n) (ops : List (TOp α)) :
    ∀ (rows : List (List (Option α))) (R : Nat) (A : Nat → Nat) (E : Nat), Rel n rows R A E → Causal n R A ops →
      Rel n (runTbl n rows ops).1 (R + reqs ops) (fun j => A j + replies j ops) (E + (runTbl n rows ops).2.length) := by
  induction ops with
  | nil => exact fun rows R A E h _ => h
  | cons op ops ih =>
    intro rows R A E h hc
    cases op with
    | req => exact (ih _ _ _ _ (addRow_rel n hn rows R A E h) hc).congr (Nat.add_right_comm R 1 (reqs ops)) (fun _ _ => rfl) rfl
    | reply i v =>
      refine (ih _ _ _ _ (tblStep_reply_rel n rows R A E i v hc.1 hc.2.1 h) hc.2.2).congr rfl (fun j _ => ?_) ?_
      · show (if j = i then A j + 1 else A j) + replies j ops = A j + (replies j ops + if i = j then 1 else 0)
        by_cases hji : j = i
        · rw [if_pos hji, if_pos hji.symm, Nat.add_right_comm, Nat.add_assoc]
        · rw [if_neg hji, if_neg (Ne.symm hji)]; rfl
      · rw [runTbl, List.length_append, Nat.add_assoc]

/-- while rows are pending the oldest lacks the answer of some child, and that child has answered none of the pending rows:
    the client has received exactly as many replies as the slowest child has given -/
theorem Rel.slowest {n : Nat} {rows : List (List (Option α))} {R E : Nat} {A : Nat → Nat} (h : Rel n rows R A E) :
    rows = [] ∨ ∃ j, j < n ∧ A j = E := by
  obtain ⟨hinv, -, hc⟩ := h
  cases rows with
  | nil => exact .inl rfl
  | cons r rest =>
    have hnf : ¬ ∀ j, j < r.length → filled r j = true := fun hall =>
      Bool.false_ne_true ((hinv.nfull r List.mem_cons_self).symm.trans ((rowFull_iff r).2 hall))
    obtain ⟨j, hj⟩ := Classical.not_forall.1 hnf
    obtain ⟨hjl, hjf⟩ := Classical.not_imp.1 hj
    rw [hinv.len r List.mem_cons_self] at hjl
    refine .inr ⟨j, hjl, ?_⟩
    have hz : answered j (r :: rest) = 0 := by
      refine List.countP_eq_zero.2 fun x hx hxf => hjf ?_
      rcases List.mem_cons.1 hx with rfl | hx
      · exact hxf
      · exact (List.pairwise_cons.1 hinv.pre).1 x hx j hxf
    rw [← hc j hjl, hz, Nat.zero_add]

/-- C09's "exactly one reply per request" at one key, from an empty table.  `hc`: the children answer only requests that were
    made, in any interleaving and with any number in flight; the last clause is the history in which every child has
    answered every request. -/
theorem replies_exactly_once (n : Nat) (hn : 0 < n) (ops : List (TOp α)) (hc : Causal n 0 (fun _ => 0) ops) :
    (runTbl n [] ops).2.length ≤ reqs ops ∧
    (∀ j, j < n → (runTbl n [] ops).2.length ≤ replies j ops) ∧
    ((∀ j, j < n → replies j ops = reqs ops) → (runTbl n [] ops).2.length = reqs ops ∧ (runTbl n [] ops).1 = []) := by
  have h0 : Rel n ([] : List (List (Option α))) 0 (fun _ => 0) 0 := ⟨inv_nil n, rfl, fun j _ => rfl⟩
  have hrel := runTbl_rel n hn ops [] 0 (fun _ => 0) 0 h0 hc
  simp only [Nat.zero_add] at hrel
  have hl := hrel.2.1
  refine ⟨Nat.le.intro ((Nat.add_comm _ _).trans hl), fun j hj => Nat.le.intro ((Nat.add_comm _ _).trans (hrel.2.2 j hj)),
    fun hall => ?_⟩
  have hE : (runTbl n [] ops).2.length = reqs ops := by
    rcases hrel.slowest with hnil | ⟨j, hj, hje⟩
    · rw [hnil] at hl; exact (Nat.zero_add _).symm.trans hl
    · exact hje.symm.trans (hall j hj)
  exact ⟨hE, List.eq_nil_of_length_eq_zero (by omega)⟩

theorem contains_none [BEq α] (r : List (Option α)) : r.contains none = !rowFull r := by
  induction r with
  | nil => rfl
  | cons x xs ih =>
    rw [List.contains_cons, ih]
    cases x <;> rfl

theorem popRow_ne (keep : Int → Bool) (tbl : List (String × List (List (Option α)))) (k : String)
    (rows : List (List (Option α))) {k' : String} (h : k' ≠ k) : alGet (popRow keep tbl k rows) k' = alGet tbl k' := by
  unfold popRow
  split
  · exact alGet_alSet_ne _ _ _ _ h
  · exact alGet_alErase_ne _ _ _ h

theorem popRow_self (keep : Int → Bool) (hkeep : ∀ n, keep n = decide (n > 1)) (tbl : List (String × List (List (Option α))))
    (k : String) (rows : List (List (Option α))) : (alGet (popRow keep tbl k rows) k).getD [] = rows.tail := by
  unfold popRow
  rw [hkeep]
  by_cases h : (rows.length : Int) > 1
  · rw [if_pos (decide_eq_true h), alGet_alSet_self]; rfl
  · -- the key is deleted with its last row
    rw [if_neg (by simpa using h), alGet_alErase_self]
    exact (List.eq_nil_of_length_eq_zero (by rw [List.length_tail]; omega)).symm

/-- child `i`'s reply `v` under key `k` of a pending table (`SetMsg`, `Ready`, `Clear…ID`): the new table, and the oldest
    row of `k` if the reply completed it -/
def tblReply (tbl : List (String × List (List (Option α)))) (k : String) (i : Nat) (v : α) :
    List (String × List (List (Option α))) × Option (List α) :=
  match fill ((alGet tbl k).getD []) i v with
  | [] => (tbl, none)
  | r :: rest =>
    if rowFull r then (popRow (fun n => decide (n > 1)) (alSet tbl k (r :: rest)) k (r :: rest), some (r.filterMap id))
    else (alSet tbl k (r :: rest), none)

/-- The body that `sendOK` and `sendCount` share, whatever is made of its two results (`upd` stores the table, `agg` turns a
    completed row into the client's message), for any tests that say what the Go tests of either table say. -/
theorem reply_body [BEq α] {σ β : Type} {free expr notReady : Bool → Bool} {isZero keep : Int → Bool}
    (hfree : ∀ b, free b = b) (hzero : ∀ n, isZero n = (n == 0)) (hexpr : ∀ b, expr b = !b)
    (hnot : ∀ b, notReady b = !b) (hkeep : ∀ n, keep n = decide (n > 1))
    (upd : List (String × List (List (Option α))) → σ) (agg : List α → Option β)
    (tbl : List (String × List (List (Option α)))) (k : String) (i : Nat) (v : α) :
    (let rows := (alGet tbl k).getD []
     let rows1 := fillFirst free rows i v
     let tbl1 := if rows.isEmpty then tbl else alSet tbl k rows1
     let ready := if isZero rows1.length then false else expr ((rows1.headD []).contains none)
     if notReady ready then (upd tbl1, none)
     else (upd (popRow keep tbl1 k rows1), agg ((rows1.headD []).filterMap id))) =
    (upd (tblReply tbl k i v).1, (tblReply tbl k i v).2.bind agg) := by
  obtain rfl : free = fun b => b := funext hfree
  obtain rfl : keep = fun n => decide (n > 1) := funext hkeep
  unfold tblReply fill
  simp only [hzero, hexpr, hnot]
  cases (alGet tbl k).getD [] with
  | nil => rfl
  | cons r0 rest0 =>
    cases hfr : fillFirst (fun b => b) (r0 :: rest0) i v with
    | nil => exact absurd ((length_fill (r0 :: rest0) i v).symm.trans (congrArg List.length hfr)) (Nat.succ_ne_zero _)
    | cons r rest =>
      simp only [length_beq_zero, Bool.false_eq_true, if_false, List.headD_cons, contains_none, Bool.not_not,
        List.isEmpty_cons]
      cases rowFull r <;> rfl

theorem sendOK_eq (st : MergeSt) (i : Nat) (m : OKMsg) :
    sendOK st i m = ({ st with ok := (tblReply st.ok m.id i m).1 }, (tblReply st.ok m.id i m).2.bind joinOK) :=
  reply_body (fun _ => rfl) (fun _ => rfl) (fun _ => rfl) (fun _ => rfl) (fun _ => rfl)
    (fun t => ({ st with ok := t } : MergeSt)) joinOK st.ok m.id i m

/-- `Msg(subID)` of the COUNT table: the reply carrying the largest count -/
def countOf (row : List (String × Nat × Option Bool)) : Option ServerMsg :=
  (maxCount row).map fun x => .count x.1 x.2.1 x.2.2

theorem sendCount_eq (st : MergeSt) (i : Nat) (sub : String) (c : Nat) (a : Option Bool) :
    sendCount st i sub c a =
      ({ st with cnt := (tblReply st.cnt sub i (sub, c, a)).1 }, (tblReply st.cnt sub i (sub, c, a)).2.bind countOf) :=
  reply_body (fun _ => rfl) (fun _ => rfl) (fun _ => rfl) (fun _ => rfl) (fun _ => rfl)
    (fun t => ({ st with cnt := t } : MergeSt)) countOf st.cnt sub i (sub, c, a)

theorem tblReply_ne (tbl : List (String × List (List (Option α)))) (k : String) (i : Nat) (v : α) {k' : String}
    (h : k' ≠ k) : alGet (tblReply tbl k i v).1 k' = alGet tbl k' := by
  unfold tblReply
  cases fill ((alGet tbl k).getD []) i v with
  | nil => rfl
  | cons r rest =>
    by_cases hf : rowFull r = true
    · simp only [if_pos hf, popRow_ne _ _ _ _ h, alGet_alSet_ne _ _ _ _ h]
    · simp only [if_neg hf, alGet_alSet_ne _ _ _ _ h]

theorem tblReply_step (n : Nat) (tbl : List (String × List (List (Option α)))) (k : String) (i : Nat) (v : α) :
    ((alGet (tblReply tbl k i v).1 k).getD [], (tblReply tbl k i v).2) = tblStep n ((alGet tbl k).getD []) (.reply i v) := by
  simp only [tblReply, tblStep]
  cases hfr : fill ((alGet tbl k).getD []) i v with
  | nil =>
    have := length_fill ((alGet tbl k).getD []) i v
    rw [hfr] at this
    exact congrArg (·, none) (List.length_eq_zero_iff.1 this.symm)
  | cons r rest =>
    by_cases hf : rowFull r = true
    · simp only [if_pos hf, popRow_self _ (fun _ => rfl), List.tail_cons]
    · simp only [if_neg hf, alGet_alSet_self, Option.getD_some]

/-- a child message changes the one table of its kind -/
theorem child_tables (st : MergeSt) (i : Nat) (msg : ServerMsg) :
    (st.child i msg).1 =
      match msg with
      | .eose sub => { st with req := (sendEose st i sub).1.req }
      | .event sub e => { st with req := (sendableEvent st i sub e).1.req }
      | .ok id acc pfx t => { st with ok := (tblReply st.ok id i { id := id, accepted := acc, text := pfx ++ t }).1 }
      | .count sub c a => { st with cnt := (tblReply st.cnt sub i (sub, c, a)).1 }
      | _ => st := by
  cases msg with
  | eose sub => exact sendEose_tables st i sub
  | event sub e => exact sendableEvent_tables st i sub e
  | ok id acc pfx t => rw [MergeSt.child, sendOK_eq]
  | count sub c a => rw [MergeSt.child, sendCount_eq]
  | _ => rfl

def step (st : MergeSt) : MStep → MergeSt
  | .client m => st.client m
  | .child i msg => (st.child i msg).1

theorem runMerge_cons_fst (st : MergeSt) (s : MStep) (tr : List MStep) :
    (runMerge st (s :: tr)).1 = (runMerge (step st s) tr).1 := by
  cases s <;> rfl

theorem step_n (st : MergeSt) (s : MStep) : (step st s).n = st.n := by
  cases s with
  | client m => cases m <;> rfl
  | child i msg => rw [step, child_tables]; cases msg <;> rfl

/-- Forward simulation, once for both pending tables.  `rows` reads the rows of one key off the session state, `proj`
    the requests and replies for that key off a trace, `emits` counts what the client received for it. -/
theorem sim_run (rows : MergeSt → List (List (Option α))) (proj : List MStep → List (TOp α))
    (emits : MergeSt → List MStep → Nat) (hproj : proj [] = []) (hemits : ∀ st, emits st [] = 0)
    (hstep : ∀ st s tr, 0 < st.n → (∀ r ∈ rows st, r.length = st.n) →
      ∃ ops, proj (s :: tr) = ops ++ proj tr ∧ rows (step st s) = (runTbl st.n (rows st) ops).1 ∧
        emits st (s :: tr) = (runTbl st.n (rows st) ops).2.length + emits (step st s) tr)
    (tr : List MStep) : ∀ st : MergeSt, 0 < st.n → (∀ r ∈ rows st, r.length = st.n) →
      rows (runMerge st tr).1 = (runTbl st.n (rows st) (proj tr)).1 ∧
      emits st tr = (runTbl st.n (rows st) (proj tr)).2.length := by
  induction tr with
  | nil => intro st _ _; rw [hproj, hemits]; exact ⟨rfl, rfl⟩
  | cons s tr ih =>
    intro st hn hlen
    obtain ⟨ops, h2, h3, h4⟩ := hstep st s tr hn hlen
    have hn' := step_n st s
    obtain ⟨i1, i2⟩ := ih (step st s) (hn'.symm ▸ hn) (by rw [h3, hn']; exact runTbl_len _ _ _ hlen)
    rw [runMerge_cons_fst, h2, runTbl_append, h4, i1, i2, h3, hn', List.length_append]
    exact ⟨rfl, rfl⟩

/-- a request for key `k`, seen from key `X` -/
theorem addRow_sim (n : Nat) (tbl : List (String × List (List (Option α)))) (k X : String) :
    (alGet (alSet tbl k (addRow ((alGet tbl k).getD []) n)) X).getD [] =
      (runTbl n ((alGet tbl X).getD []) (if k = X then [.req] else [])).1 ∧
    (runTbl n ((alGet tbl X).getD []) (if k = X then [TOp.req] else [])).2 = [] := by
  by_cases h : k = X
  · subst h; rw [if_pos rfl, alGet_alSet_self]; exact ⟨rfl, rfl⟩
  · rw [if_neg h, alGet_alSet_ne _ _ _ _ (Ne.symm h)]; exact ⟨rfl, rfl⟩

theorem outOf_ok (o : Option ServerMsg) : outOf (.ok o) = o.toList := by cases o <;> rfl

/-- child `i`'s reply for key `k`, seen from key `X`; `agg` makes the client's message of a completed row, and makes one
    of every non-empty row (`hagg`), so the client receives something exactly when the one-key machine emits -/
theorem reply_sim (n : Nat) (hn : 0 < n) (tbl : List (String × List (List (Option α)))) (k X : String) (i : Nat) (v : α)
    (hlen : ∀ r ∈ (alGet tbl X).getD [], r.length = n) (agg : List α → Option ServerMsg)
    (hagg : ∀ row, row ≠ [] → (agg row).isSome = true) :
    (alGet (tblReply tbl k i v).1 X).getD [] =
      (runTbl n ((alGet tbl X).getD []) (if k = X then [.reply i v] else [])).1 ∧
    (if k = X then (outOf (.ok ((tblReply tbl k i v).2.bind agg))).length else 0) =
      (runTbl n ((alGet tbl X).getD []) (if k = X then [.reply i v] else [])).2.length := by
  by_cases h : k = X
  · subst h
    have hs := tblReply_step n tbl k i v
    rw [if_pos rfl, if_pos rfl, outOf_ok]
    refine ⟨congrArg Prod.fst hs, ?_⟩
    show _ = ((tblStep n _ (.reply i v)).2.toList ++ []).length
    rw [← hs, List.append_nil]
    cases ho : (tblReply tbl k i v).2 with
    | none => rfl
    | some row =>
      have := hagg row (tblStep_out_ne_nil n hn _ i v hlen row (by rw [← hs, ho]))
      cases hj : agg row with
      | none => rw [hj] at this; cases this
      | some o => rw [Option.bind_some, hj]; rfl
  · rw [if_neg h, if_neg h, tblReply_ne _ _ _ _ (Ne.symm h)]; exact ⟨rfl, rfl⟩

end Moc.C09
