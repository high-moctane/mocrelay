/-
  C07 over arbitrary schedules of the router's transition system (MocModel/Router.lean): any sequence of steps of any
  number of connections in which every step is enabled when it is taken (`Sched`).  `must_deliver` (with
  `visit_delivers_once`) is the "must" half of the real-time rule by which the monitor of Spec/RouterConc.lean judges
  recorded concurrent runs; `must_not_deliver`, the registry part of the "must not" half, holds of any sequence of
  steps, enabled or not.  How wall-clock observations map to positions in a schedule is not proved.
-/
import MocProps.C07

namespace Moc.C07

def Sched : RSt → List RStep → Prop
  | _, [] => True
  | st, s :: rest => st.enabled s = true ∧ Sched (st.step s).1 rest

def runS (st : RSt) (steps : List RStep) : RSt := steps.foldl (fun st s => (st.step s).1) st

theorem runS_append (st : RSt) (a b : List RStep) : runS st (a ++ b) = runS (runS st a) b :=
  List.foldl_append

theorem sched_append (st : RSt) (a b : List RStep) : Sched st (a ++ b) ↔ Sched st a ∧ Sched (runS st a) b := by
  induction a generalizing st with
  | nil => simp [Sched, runS]
  | cons s a ih => simp only [List.cons_append, Sched, ih, runS, List.foldl_cons, and_assoc]

/-- the step closes, replaces or drops the subscription `(c, s)` -/
def touches (c : Conn) (s : String) : RStep → Bool
  | .subscribe c' s' _ => c' == c && s' == s
  | .unsubscribe c' s' => c' == c && s' == s
  | .unsubAll c' => c' == c
  | _ => false

def subscribes (c : Conn) (s : String) : RStep → Bool
  | .subscribe c' s' _ => c' == c && s' == s
  | _ => false

/-- the filters `(c, s)` is registered with -/
def subOf (st : RSt) (c : Conn) (s : String) : Option (List Filter) := alGet ((nGet st.reg c).getD []) s

theorem ne_of_touches_false {c' c : Conn} {s' s : String} (h : (c' == c && s' == s) = false) (hc : c' = c) :
    s ≠ s' := by
  rw [hc, beq_self_eq_true, Bool.true_and] at h
  exact fun e => beq_eq_false_iff_ne.1 h e.symm

theorem subOf_untouched (st : RSt) (x : RStep) (c : Conn) (s : String) (h : touches c s x = false) :
    subOf (st.step x).1 c s = subOf st c s := by
  cases x with
  | subscribe c' s' fs' =>
    obtain ⟨⟨subs, h1, _, h2⟩, h3, _⟩ := subscribe_registers st c' s' fs'
    by_cases hc : c' = c
    · rw [subOf, ← hc, h1]; exact h2 s (ne_of_touches_false h hc)
    · rw [subOf, h3 c (Ne.symm hc)]; rfl
  | unsubscribe c' s' =>
    obtain ⟨_, h2, h3⟩ := unsubscribe_removes st c' s'
    by_cases hc : c' = c
    · rw [← hc]; exact h2 s (ne_of_touches_false h hc)
    · rw [subOf, h3 c (Ne.symm hc)]; rfl
  | unsubAll c' =>
    have hc : c ≠ c' := fun e => beq_eq_false_iff_ne.1 h e.symm
    rw [subOf, step_unsubAll]
    exact congrArg (fun o => alGet (o.getD []) s) (nGet_nErase_ne st.reg c' c hc)
  | pubBegin p e => rw [subOf, reg_pubBegin]; rfl
  | pubEnd p => rw [subOf, reg_pubEnd]; rfl
  | deq c' => rw [subOf, reg_deq]; rfl
  | visit p c' => rw [subOf, reg_visit]; rfl

theorem subOf_absent (st : RSt) (x : RStep) (c : Conn) (s : String) (h : subscribes c s x = false)
    (hn : subOf st c s = none) : subOf (st.step x).1 c s = none := by
  cases ht : touches c s x with
  | false => rw [subOf_untouched st x c s ht]; exact hn
  | true =>
    -- touched but not subscribed: its CLOSE, or the disconnect of its connection
    cases x with
    | subscribe c' s' fs' => exact absurd (h.symm.trans ht) Bool.false_ne_true
    | unsubscribe c' s' =>
      obtain ⟨rfl, rfl⟩ : c' = c ∧ s' = s := by simpa [touches] using ht
      exact (unsubscribe_removes st c' s').1
    | unsubAll c' =>
      obtain rfl : c' = c := by simpa [touches] using ht
      rw [subOf, (unsubAll_removes_everything st c').1]; rfl
    | _ => cases ht

/-- `p`'s publish of `e` is in progress and has `c` still to visit -/
def Pending (st : RSt) (p : Conn) (e : Event) (c : Conn) : Prop :=
  ∃ pb, nGet st.pubs p = some pb ∧ pb.e = e ∧ c ∈ pb.todo

/-- also true of a connection the publish never had to visit -/
def Visited (st : RSt) (p : Conn) (e : Event) (c : Conn) : Prop :=
  ∃ pb, nGet st.pubs p = some pb ∧ pb.e = e ∧ c ∉ pb.todo

theorem pub_step (st : RSt) (p : Conn) (pb : Pub) (x : RStep) (hp : nGet st.pubs p = some pb)
    (hen : st.enabled x = true) (hx : x ≠ .pubEnd p) :
    nGet (st.step x).1.pubs p = some pb ∨
    ∃ c, x = .visit p c ∧ nGet (st.step x).1.pubs p = some { pb with todo := pb.todo.filter (· != c) } := by
  cases x with
  | subscribe c' s' fs' => rw [step_subscribe]; exact .inl hp
  | unsubscribe c' s' =>
    rcases step_unsubscribe_cases st c' s' with ⟨_, e⟩ | ⟨_, _, e⟩ <;> rw [e] <;> exact .inl hp
  | unsubAll c' => rw [step_unsubAll]; exact .inl hp
  | deq c' => rcases step_deq_cases st c' with ⟨_, e⟩ | ⟨_, _, _, e⟩ <;> rw [e] <;> exact .inl hp
  | pubBegin p' e' =>
    -- a connection's receive loop is serial: `p` itself cannot begin another publish
    have hne : p ≠ p' := by rintro rfl; rw [enabled_pubBegin_eq, hp] at hen; cases hen
    rw [step_pubBegin]
    exact .inl ((nGet_nSet_ne _ _ _ _ hne).trans hp)
  | pubEnd p' =>
    rw [step_pubEnd]
    exact .inl ((nGet_nErase_ne _ _ _ (fun e : p = p' => hx (e ▸ rfl))).trans hp)
  | visit p' c' =>
    rcases step_visit_cases st p' c' with ⟨_, e⟩ | ⟨_, _, _, e⟩ | ⟨pb', _, hp', _, e⟩ <;> rw [e]
    · exact .inl hp
    · exact .inl hp
    · by_cases hpp : p = p'
      · subst hpp
        cases hp.symm.trans hp'
        exact .inr ⟨c', rfl, nGet_nSet_self _ _ _⟩
      · exact .inl ((nGet_nSet_ne _ _ _ _ hpp).trans hp)

theorem pending_blocks_pubEnd (st : RSt) (p c : Conn) (e : Event) (hp : Pending st p e c) :
    st.enabled (.pubEnd p) ≠ true := by
  obtain ⟨pb, h1, _, h3⟩ := hp
  intro h
  rw [enabled_pubEnd_eq st p pb h1, List.isEmpty_iff] at h
  exact List.not_mem_nil (h ▸ h3)

theorem pending_step (st : RSt) (p c : Conn) (e : Event) (x : RStep) (hp : Pending st p e c)
    (hen : st.enabled x = true) (hx : x ≠ .visit p c) : Pending (st.step x).1 p e c := by
  have hne : x ≠ .pubEnd p := fun h => pending_blocks_pubEnd st p c e hp (h ▸ hen)
  obtain ⟨pb, h1, h2, h3⟩ := hp
  rcases pub_step st p pb x h1 hen hne with g | ⟨c', rfl, g⟩
  · exact ⟨pb, g, h2, h3⟩
  · exact ⟨_, g, h2, List.mem_filter.2 ⟨h3, bne_iff_ne.2 fun e => hx (e ▸ rfl)⟩⟩

theorem visited_step (st : RSt) (p c : Conn) (e : Event) (x : RStep) (hv : Visited st p e c)
    (hen : st.enabled x = true) (hx : x ≠ .pubEnd p) : Visited (st.step x).1 p e c ∧ x ≠ .visit p c := by
  obtain ⟨pb, h1, h2, h3⟩ := hv
  refine ⟨?_, ?_⟩
  · rcases pub_step st p pb x h1 hen hx with g | ⟨c', rfl, g⟩
    · exact ⟨pb, g, h2, h3⟩
    · exact ⟨_, g, h2, fun h => h3 (List.mem_filter.1 h).1⟩
  · rintro rfl
    rw [enabled_visit_eq st p c pb h1] at hen
    exact h3 (List.contains_iff_mem.1 hen)

theorem visit_makes_visited (st : RSt) (p c : Conn) (e : Event) (hp : Pending st p e c)
    (hnp : (st.step (.visit p c)).2 ≠ .panic) : Visited (st.step (.visit p c)).1 p e c := by
  obtain ⟨pb, h1, h2, _⟩ := hp
  rcases step_visit_cases st p c with ⟨hn, _⟩ | ⟨_, _, _, e⟩ | ⟨pb', _, hp', _, e⟩
  · cases h1.symm.trans hn
  · exact absurd (congrArg Prod.snd e) hnp
  · cases h1.symm.trans hp'
    rw [e]
    exact ⟨_, nGet_nSet_self _ _ _, h2, fun hmem => absurd rfl (bne_iff_ne.1 (List.mem_filter.1 hmem).2)⟩

theorem first_visit (p c : Conn) (e : Event) (mid : List RStep) :
    ∀ (st : RSt), Sched st mid → Pending st p e c → ¬ Pending (runS st mid) p e c →
      ∃ pre post, mid = pre ++ .visit p c :: post ∧ (∀ x ∈ pre, x ≠ .visit p c) ∧ Pending (runS st pre) p e c := by
  induction mid with
  | nil => intro st _ hp hn; exact absurd hp hn
  | cons x rest ih =>
    intro st hs hp hn
    by_cases hx : x = .visit p c
    · subst hx
      exact ⟨[], rest, rfl, fun _ h => absurd h List.not_mem_nil, hp⟩
    · obtain ⟨pre, post, he, hnv, hpend⟩ := ih (st.step x).1 hs.2 (pending_step st p c e x hp hs.1 hx) hn
      exact ⟨x :: pre, post, by rw [he]; rfl, List.forall_mem_cons.2 ⟨hx, hnv⟩, hpend⟩

theorem no_second_visit (p c : Conn) (e : Event) (post : List RStep) :
    ∀ (st : RSt), Sched st post → Visited st p e c → (∀ x ∈ post, x ≠ .pubEnd p) → ∀ x ∈ post, x ≠ .visit p c := by
  induction post with
  | nil => intro st _ _ _ x hx; cases hx
  | cons y rest ih =>
    intro st hs hv hne
    obtain ⟨hv', hy⟩ := visited_step st p c e y hv hs.1 (List.forall_mem_cons.1 hne).1
    exact List.forall_mem_cons.2 ⟨hy, ih _ hs.2 hv' (List.forall_mem_cons.1 hne).2⟩

theorem subOf_run_untouched (c : Conn) (s : String) (steps : List RStep) (st : RSt)
    (h : ∀ x ∈ steps, touches c s x = false) : subOf (runS st steps) c s = subOf st c s :=
  List.foldlRecOn (motive := fun st' => subOf st' c s = subOf st c s) steps _ rfl
    fun st' h' x hx => (subOf_untouched st' x c s (h x hx)).trans h'

theorem subOf_run_absent (c : Conn) (s : String) (steps : List RStep) (st : RSt)
    (h : ∀ x ∈ steps, subscribes c s x = false) (hn : subOf st c s = none) : subOf (runS st steps) c s = none :=
  List.foldlRecOn (motive := fun st' => subOf st' c s = none) steps _ hn
    fun st' h' x hx => subOf_absent st' x c s (h x hx) h'

theorem deliver_from_pending (st : RSt) (p c : Conn) (e : Event) (s : String) (mid : List RStep)
    (hpend : Pending st p e c) (hs : Sched st mid) (hunt : ∀ x ∈ mid, touches c s x = false)
    (hnoend : ∀ x ∈ mid, x ≠ .pubEnd p) (hend : (runS st mid).enabled (.pubEnd p) = true) :
    ∃ pre post, mid = pre ++ .visit p c :: post ∧ (∀ x ∈ pre, x ≠ .visit p c) ∧
      subOf (runS st pre) c s = subOf st c s ∧ Pending (runS st pre) p e c ∧
      ((((runS st pre).step (.visit p c)).2 ≠ .panic) → ∀ x ∈ post, x ≠ .visit p c) := by
  -- `pubEnd p` is enabled at the end: nothing is left to visit
  obtain ⟨pre, post, rfl, hnv, hpend'⟩ := first_visit p c e mid st hs hpend
    fun h => pending_blocks_pubEnd _ p c e h hend
  exact ⟨pre, post, rfl, hnv, subOf_run_untouched c s pre st fun x hx => hunt x (List.mem_append_left _ hx), hpend',
    fun hnp => no_second_visit p c e post _ ((sched_append _ _ _).1 hs).2.2 (visit_makes_visited _ p c e hpend' hnp)
      fun x hx => hnoend x (List.mem_append_right _ (List.mem_cons_of_mem _ hx))⟩

/-- "Must deliver": a subscription `(c, s)` registered with `fs` when `p` begins to publish `e`, and touched by no
    step until the publish can end, is visited by that publish in a state in which it is still registered with `fs`,
    and not a second time unless that visit panics (it does not for events without empty tags). -/
theorem must_deliver (st : RSt) (p c : Conn) (e : Event) (s : String) (fs : List Filter) (mid : List RStep)
    (hreg : subOf st c s = some fs)
    (hs : Sched (st.step (.pubBegin p e)).1 mid)
    (hunt : ∀ x ∈ mid, touches c s x = false)
    (hnoend : ∀ x ∈ mid, x ≠ .pubEnd p)
    (hend : (runS (st.step (.pubBegin p e)).1 mid).enabled (.pubEnd p) = true) :
    ∃ pre post, mid = pre ++ .visit p c :: post ∧ (∀ x ∈ pre, x ≠ .visit p c) ∧
      subOf (runS (st.step (.pubBegin p e)).1 pre) c s = some fs ∧
      Pending (runS (st.step (.pubBegin p e)).1 pre) p e c ∧
      ((((runS (st.step (.pubBegin p e)).1 pre).step (.visit p c)).2 ≠ .panic) → ∀ x ∈ post, x ≠ .visit p c) := by
  -- a registered subscription's connection has an entry, so it is on the to-do list the publish begins with
  have hc : c ∈ st.reg.map (·.1) := by
    cases hr : nGet st.reg c with
    | none => rw [subOf, hr] at hreg; cases hreg
    | some subs => exact List.mem_map.2 ⟨(c, subs), mem_of_lookup_eq_some hr, rfl⟩
  obtain ⟨pre, post, he, hnv, hsub, hrest⟩ := deliver_from_pending _ p c e s mid
    ⟨_, pubBegin_todo st p e, rfl, hc⟩ hs hunt hnoend hend
  exact ⟨pre, post, he, hnv, hsub.trans hreg, hrest⟩

/-- The registry half of "must not deliver": a subscription id absent in some state and subscribed by no later step
    is absent at every later visit of its connection (schedule or not).  Queues are not mentioned: for those see
    `visit_adds_only_open_matching`. -/
theorem must_not_deliver (st : RSt) (p c : Conn) (s : String) (mid pre post : List RStep)
    (habs : subOf st c s = none) (hnos : ∀ x ∈ mid, subscribes c s x = false)
    (he : mid = pre ++ .visit p c :: post) :
    subOf (runS st pre) c s = none :=
  subOf_run_absent c s pre st (fun x hx => hnos x (he ▸ List.mem_append_left _ hx)) habs

/-- What the visit found by `must_deliver` does, given room in the queue: it appends `EVENT s e` once if the filters
    match `e` per NIP-01 and not at all otherwise. -/
theorem visit_delivers_once (st : RSt) (p c : Conn) (e : Event) (s : String) (fs : List Filter)
    (hpend : Pending st p e c) (hsub : subOf st c s = some fs) (hok : SubsOK st)
    (hwf : ∀ q ∈ (nGet st.reg c).getD [], ∀ f ∈ q.2, f.WF) (hne : C02.TagsNonEmpty e)
    (hroom : ((nGet st.q c).getD []).length + ((nGet st.reg c).getD []).length ≤ st.buflen) :
    ∃ added, nGet (st.step (.visit p c)).1.q c = some ((nGet st.q c).getD [] ++ added) ∧
      added.count (.event s e) = if nip01MatchAnyB fs e then 1 else 0 := by
  obtain ⟨pb, h1, rfl, _⟩ := hpend
  exact ⟨owedTo st c pb.e, visit_delivers_all st p c pb h1 hwf hne hroom,
    owed_count st hok c pb.e s fs (mem_of_lookup_eq_some hsub)⟩

/-! non-vacuity of `must_deliver`'s hypotheses: a subscribe of another id and a dequeue interleave with the publish -/
def exSched : List RStep := [.subscribe 2 "other" [{}], .visit 1 2, .deq 2, .visit 1 1]
def exSt0 : RSt := { buflen := 4, reg := [(1, [("s", [{ kinds := some [1] }])]), (2, [("t", [{}])])] }

example : Sched (exSt0.step (.pubBegin 1 exEv)).1 exSched := by
  simp only [exSched, Sched]
  decide
example : (runS (exSt0.step (.pubBegin 1 exEv)).1 exSched).enabled (.pubEnd 1) = true := by decide
example : subOf exSt0 1 "s" = some [{ kinds := some [1] }] := by decide
example : ∀ x ∈ exSched, touches 1 "s" x = false := by decide

end Moc.C07
