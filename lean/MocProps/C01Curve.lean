import MocModel.Bip340

/-!
  C01, arithmetic facts behind the Lean BIP-340 (MocModel/Bip340.lean): `powMod` is modular exponentiation, so
  `inv a = a^(p-2) mod p` and the square-root candidate of `lift_x` is `c^((p+1)/4) mod p`; a point returned by
  `lift_x` lies on the curve `y² = x³ + 7 (mod p)`, has the requested `x < p` and an even `y < p`; the ways through
  `verifyRef` (`verifyRef_cases`); and three kernel-evaluated checks of the curve arithmetic on concrete values.
-/

namespace Moc.Bip340

theorem powModF_eq : ∀ (fuel b e m acc : Nat), e < 2 ^ fuel →
    powModF fuel b e m (acc % m) = acc * b ^ e % m := by
  intro fuel
  induction fuel with
  | zero =>
    intro b e m acc he
    have : e = 0 := by simpa using he
    simp [this, powModF]
  | succ k ih =>
    intro b e m acc he
    have hlt : e / 2 < 2 ^ k := by rw [Nat.pow_succ] at he; omega
    have hsq (x : Nat) : x * (b * b % m) ^ (e / 2) % m = x * b ^ (2 * (e / 2)) % m := by
      rw [Nat.mul_mod, ← Nat.pow_mod, Nat.pow_mul, Nat.pow_two, ← Nat.mul_mod]
    unfold powModF
    by_cases h0 : e = 0
    · simp [h0]
    · rw [if_neg h0]
      by_cases hodd : e % 2 = 1
      · rw [if_pos hodd, ih _ _ _ _ hlt, hsq, Nat.mul_assoc, ← Nat.pow_succ', Nat.mod_mul_mod]
        congr 3; omega  -- the exponents: `2 * (e / 2) + 1 = e`, as `e` is odd
      · rw [if_neg hodd, ih _ _ _ _ hlt, hsq]
        congr 3; omega  -- `2 * (e / 2) = e`, as `e` is even

theorem powMod_eq (b e m : Nat) : powMod b e m = b ^ e % m := by
  rw [powMod, powModF_eq _ _ _ _ _ Nat.lt_log2_self, Nat.one_mul, ← Nat.pow_mod]

theorem powMod_spec (b e m : Nat) : powMod b e m % m = b ^ e % m := by
  rw [powMod_eq, Nat.mod_mod]

theorem powMod_lt (b e m : Nat) (hm : 1 < m) : powMod b e m < m := by
  rw [powMod_eq]; exact Nat.mod_lt _ (by omega)

theorem inv_spec (a : Nat) : inv a % p = a ^ (p - 2) % p := powMod_spec a (p - 2) p

theorem neg_sq (a : Nat) (h : a ≤ p) : (p - a) * (p - a) % p = a * a % p := by
  have key : (p - a) * (p - a) + a * p = a * a + (p - a) * p := by
    have hp : p = (p - a) + a := by omega
    generalize p - a = d at hp ⊢
    rw [hp]
    simp only [Nat.mul_add]
    -- a product of variables is an atom to `omega`: `hc` makes `d * a` and `a * d` the same one
    have hc : d * a = a * d := Nat.mul_comm d a
    omega
  have h1 : ((p - a) * (p - a) + a * p) % p = (p - a) * (p - a) % p := Nat.add_mul_mod_self_right _ _ _
  have h2 : (a * a + (p - a) * p) % p = a * a % p := Nat.add_mul_mod_self_right _ _ _
  rw [← h1, key, h2]

theorem liftX_sound (x : Nat) (P : Nat × Nat) (h : liftX x = some P) :
    P.1 = x ∧ x < p ∧ P.2 * P.2 % p = (x * x % p * x + 7) % p ∧ P.2 % 2 = 0 ∧ P.2 < p := by
  unfold liftX at h
  by_cases hx : x ≥ p
  · rw [if_pos hx] at h; cases h
  · rw [if_neg hx] at h
    simp only at h
    by_cases hy : powMod ((x * x % p * x + 7) % p) ((p + 1) / 4) p * powMod ((x * x % p * x + 7) % p) ((p + 1) / 4) p % p ≠
        (x * x % p * x + 7) % p
    · rw [if_pos hy] at h; cases h
    · rw [if_neg hy] at h
      have hy' := Decidable.of_not_not hy
      have hlt : powMod ((x * x % p * x + 7) % p) ((p + 1) / 4) p < p := powMod_lt _ _ _ (by decide)
      generalize powMod ((x * x % p * x + 7) % p) ((p + 1) / 4) p = y at h hy' hlt
      have hP := Option.some.inj h
      subst hP
      refine ⟨rfl, Nat.lt_of_not_le hx, ?_⟩
      by_cases he : y % 2 = 0
      · rw [if_pos he]
        exact ⟨hy', he, hlt⟩
      · rw [if_neg he]
        have hpodd : p % 2 = 1 := by decide
        -- `p - y` is even, `p` and `y` being odd; it is below `p` since `y`, being odd, is not 0
        exact ⟨by rw [neg_sq y (Nat.le_of_lt hlt)]; exact hy', by omega, by omega⟩

/-- the ways through `verifyRef`: the key is refused (wrong length, or no point above it); the key parses and the
    signature is refused (wrong length, or `r`, `s` out of range); both parse and `finalRef` decides -/
theorem verifyRef_cases (pk msg sig : List Nat) :
    (verifyRef pk msg sig = ⟨false, false, false⟩ ∧ (pk.length ≠ 32 ∨ liftX (natOfBytes pk) = none)) ∨
    ∃ px py, pk.length = 32 ∧ liftX (natOfBytes pk) = some (px, py) ∧
      ((verifyRef pk msg sig = ⟨true, false, false⟩ ∧
          (sig.length ≠ 64 ∨ natOfBytes (sig.take 32) ≥ p ∨ natOfBytes (sig.drop 32) ≥ n)) ∨
       (sig.length = 64 ∧ natOfBytes (sig.take 32) < p ∧ natOfBytes (sig.drop 32) < n ∧
          verifyRef pk msg sig =
            ⟨true, true, finalRef px py (natOfBytes (sig.take 32)) (natOfBytes (sig.drop 32)) msg⟩)) := by
  unfold verifyRef
  by_cases h1 : pk.length = 32
  · rw [if_neg (fun h => h h1)]
    cases h2 : liftX (natOfBytes pk) with
    | none => exact Or.inl ⟨rfl, Or.inr rfl⟩
    | some P =>
      obtain ⟨px, py⟩ := P
      refine Or.inr ⟨px, py, h1, rfl, ?_⟩
      dsimp only
      by_cases h3 : sig.length = 64
      · rw [if_neg (fun h => h h3)]
        by_cases h4 : natOfBytes (sig.take 32) ≥ p ∨ natOfBytes (sig.drop 32) ≥ n
        · exact Or.inl ⟨if_pos h4, Or.inr h4⟩
        · exact Or.inr ⟨h3, by omega, by omega, if_neg h4⟩
      · exact Or.inl ⟨if_pos h3, Or.inl h3⟩
  · exact Or.inl ⟨if_pos h1, Or.inl h1⟩

theorem verifyRef_pubkey_on_curve (pk msg sig : List Nat) (h : (verifyRef pk msg sig).pubkeyParses = true) :
    ∃ y, y < p ∧ y % 2 = 0 ∧ y * y % p = (natOfBytes pk * natOfBytes pk % p * natOfBytes pk + 7) % p := by
  rcases verifyRef_cases pk msg sig with ⟨e, _⟩ | ⟨px, py, _, h2, _⟩
  · rw [e] at h; cases h
  · obtain ⟨_, _, h3, h4, h5⟩ := liftX_sound _ _ h2
    exact ⟨py, h5, h4, h3⟩

/-! Kernel-evaluated checks of the curve arithmetic on concrete values: tests run by the kernel, not universally
  quantified claims.

  A scalar multiplication by the reference arithmetic inverts hundreds of field elements, each by `powMod` with the
  256-bit exponent `p - 2`: 256 squarings that the kernel reduces one by one.  `invW` computes the same power eight
  exponent bits at a time with the kernel's built-in `Nat.pow`; `paddW`, `pmulFW` are `padd`, `pmulF` with `invW`
  for `inv`, and the two checks of scalar multiplications (`order_check`, `fast_ref_check`) evaluate those. -/

def powW : Nat → Nat → Nat → Nat → Nat
  | 0, _, _, m => 1 % m
  | fuel + 1, b, e, m => powW fuel b (e / 256) m ^ 256 % m * (b ^ (e % 256) % m) % m

theorem powW_eq : ∀ fuel b e m, e < 256 ^ fuel → powW fuel b e m = b ^ e % m := by
  intro fuel
  induction fuel with
  | zero =>
    intro b e m he
    have : e = 0 := by simpa using he
    simp [this, powW]
  | succ k ih =>
    intro b e m he
    have hlt : e / 256 < 256 ^ k := by rw [Nat.pow_succ] at he; omega
    rw [powW, ih _ _ _ hlt, ← Nat.pow_mod, ← Nat.mul_mod, ← Nat.pow_mul, ← Nat.pow_add, Nat.div_add_mod']

def invW (a : Nat) : Nat := powW 32 a (p - 2) p

theorem invW_eq (a : Nat) : invW a = inv a := by
  rw [invW, inv, powMod_eq, powW_eq _ _ _ _ (by decide)]

def paddW (a b : Pt) : Pt :=
  match a, b with
  | none, q => q
  | q, none => q
  | some (x1, y1), some (x2, y2) =>
    if x1 = x2 ∧ y1 ≠ y2 then none
    else
      let lam := if x1 = x2 ∧ y1 = y2 then 3 * x1 % p * x1 % p * invW (2 * y1 % p) % p
                 else subP y2 y1 * invW (subP x2 x1) % p
      let x3 := subP (subP (lam * lam % p) x1) x2
      some (x3, subP (lam * subP x1 x3 % p) y1)

theorem paddW_eq (a b : Pt) : paddW a b = padd a b := by
  unfold paddW padd
  simp only [invW_eq]
  rcases a with _ | ⟨x1, y1⟩ <;> rcases b with _ | ⟨x2, y2⟩ <;> rfl

def pmulFW : Nat → Pt → Nat → Pt → Pt
  | 0, _, _, r => r
  | fuel + 1, q, k, r =>
    if k = 0 then r
    else pmulFW fuel (paddW q q) (k / 2) (if k % 2 = 1 then paddW r q else r)

theorem pmulFW_eq : ∀ fuel q k r, pmulFW fuel q k r = pmulF fuel q k r := by
  intro fuel
  induction fuel with
  | zero => intros; rfl
  | succ f ih => intro q k r; simp only [pmulFW, pmulF, paddW_eq, ih]

theorem pmul_eq_pmulFW (q : Pt) (k : Nat) : pmul q k = pmulFW 256 q k none :=
  (pmulFW_eq 256 q k none).symm

theorem liftX_gx_check : liftX gx = some (gx, gy) := by decide +kernel

theorem order_check : pmul G n = none ∧ pmul G (n - 1) = negPt G := by
  simp only [pmul_eq_pmulFW]
  decide +kernel

/-- the Jacobian double-scalar multiplication agrees with the affine reference on two full-width scalars -/
theorem fast_ref_check :
    toAffine (jmul2 (gx, gy, 1) (gx, (p - gy) % p, 1)
      0xE907831F80848D1069A5371B402410364BDF1C5F8307B0084C55F1CE2DCA8215
      0x25F66A4A85EA8B71E482A74F382D2CE5EBEEE8FDB2172F477DF4900D310536C0)
    = padd (pmul G 0xE907831F80848D1069A5371B402410364BDF1C5F8307B0084C55F1CE2DCA8215)
        (pmul (negPt G) 0x25F66A4A85EA8B71E482A74F382D2CE5EBEEE8FDB2172F477DF4900D310536C0) := by
  simp only [pmul_eq_pmulFW]
  decide +kernel

end Moc.Bip340
