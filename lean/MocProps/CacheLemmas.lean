/-
  What each operation of the cache model (MocModel/Cache.lean) does, stated once and in the order of the model, so
  that no proof about the store unfolds `lookup`, `isDeleted`, `delete`, `add` (`addEv`), `deleteByKind5`,
  `getOldestEvent` or `Add` again (except `C04R.addEv_sim`, `evict_sim`, `afterAdd_sim`, which set `addEv`, `evict`,
  `process` beside their concrete counterparts and go through the two bodies branch by branch).
  An operation with a case distinction has a `_cases` lemma whose branches carry their conditions (`delete_cases`,
  `addEv_cases`, `evict_cases`, `process_cases`, `add_cases`; for `getOldestEvent`, `oldestOf_cons`).  Under distinct
  keys a `mem_…_evs` lemma says exactly which events an operation removes (`mem_delete_deleted`: which registrations).
  `Add` is unfolded once (`add_eq_ite`) into the insertion under the key, `process` and `evict`; what every step keeps,
  `Add` keeps (`add_props`), and the steps after the insertion only remove events (`Le`).
  What `addKind5` enters in the registry is `C05.addKind5_deleted_mem`; the order of the tree is in CacheOrder.lean.
  C03, C04, C05, C16 and C04Refine rest on these.
-/
import MocModel.Cache

namespace Moc.CacheL

theorem eventKey_k5 (d : Event) (h : d.kind = 5) : eventKey d = d.id := by
  have : eventType d.kind = .regular := by rw [h]; decide
  simp [eventKey, this]

theorem lookup_mem (c : Cache) (k : String) (x : Event) (h : c.lookup k = some x) :
    x ∈ c.evs ∧ eventKey x = k :=
  ⟨List.mem_of_find?_eq_some h, by simpa using List.find?_some h⟩

theorem lookup_none (c : Cache) (k : String) (h : c.lookup k = none) : ∀ x ∈ c.evs, eventKey x ≠ k :=
  fun x hx hk => by simpa [hk] using List.find?_eq_none.1 h x hx

theorem lookup_own_key (c : Cache) (x : Event) (hx : x ∈ c.evs) (hnd : (c.evs.map eventKey).Nodup) :
    c.lookup (eventKey x) = some x := by
  unfold Cache.lookup
  generalize c.evs = l at hx hnd
  induction l with
  | nil => cases hx
  | cons y ys ih =>
    obtain ⟨hy, hys⟩ := List.nodup_cons.1 hnd
    rcases List.mem_cons.1 hx with rfl | hx
    · simp
    · have : eventKey y ≠ eventKey x := fun h => hy (h ▸ List.mem_map_of_mem hx)
      simpa [List.find?_cons, this] using ih hx hys

theorem key_inj (c : Cache) (hk : (c.evs.map eventKey).Nodup) (x y : Event) (hx : x ∈ c.evs) (hy : y ∈ c.evs)
    (h : eventKey x = eventKey y) : x = y :=
  Option.some.inj ((lookup_own_key c x hx hk).symm.trans (h ▸ lookup_own_key c y hy hk))

theorem isDeleted_iff (c : Cache) (k p : String) :
    c.isDeleted k p = true ↔ ∃ t ∈ c.deleted, t.1 = k ∧ t.2.1 = p := by
  simp only [Cache.isDeleted, List.any_eq_true, Bool.and_eq_true, beq_iff_eq]

theorem keys_nodup_cons (l : List Event) (e : Event) (hfresh : ∀ x ∈ l, eventKey x ≠ eventKey e)
    (h : (l.map eventKey).Nodup) : ((e :: l).map eventKey).Nodup :=
  List.nodup_cons.2 ⟨fun hm => let ⟨x, hx, hxk⟩ := List.mem_map.1 hm; hfresh x hx hxk, h⟩

theorem keys_nodup_put (l : List Event) (e : Event) (h : (l.map eventKey).Nodup) :
    ((e :: l.filter (fun y => eventKey y != eventKey e)).map eventKey).Nodup :=
  keys_nodup_cons _ e (fun x hx => by simpa using (List.mem_filter.1 hx).2)
    (List.Pairwise.sublist (List.filter_sublist.map _) h)

theorem delete_cases (c : Cache) (k p : String) :
    (c.delete k p = c ∧ ∀ x, c.lookup k = some x → x.pubkey ≠ p) ∨
    ∃ x, c.lookup k = some x ∧ x.pubkey = p ∧
      c.delete k p = { c with
        evs := c.evs.filter (fun y => eventKey y != k),
        deleted := if x.kind = 5 then
            c.deleted.filter fun t => !((k5Refs x).contains t.1 && t.2.1 == x.pubkey && t.2.2 == x.id)
          else c.deleted } := by
  unfold Cache.delete
  cases hl : c.lookup k with
  | none => exact Or.inl ⟨rfl, fun x h => nomatch h⟩
  | some x =>
    by_cases hp : x.pubkey = p
    · exact Or.inr ⟨x, rfl, hp, by simp [Gen.deleteForeign, Gen.deleteIsKind5, hp]⟩
    · exact Or.inl ⟨by simp [Gen.deleteForeign, hp], fun y h => by cases h; exact hp⟩

theorem delete_lookup_none (c : Cache) (k p : String) (h : c.lookup k = none) : c.delete k p = c := by
  rw [Cache.delete, h]

theorem delete_cap (c : Cache) (k p : String) : (c.delete k p).cap = c.cap := by
  rcases delete_cases c k p with ⟨h, _⟩ | ⟨_, _, _, h⟩ <;> rw [h]

theorem delete_own (c : Cache) (k : String) (x : Event) (h : c.lookup k = some x) :
    (c.delete k x.pubkey).evs = c.evs.filter (fun y => eventKey y != k) := by
  rcases delete_cases c k x.pubkey with ⟨_, hne⟩ | ⟨_, _, _, h'⟩
  · exact absurd rfl (hne x h)
  · rw [h']

theorem delete_sublist (c : Cache) (k p : String) : List.Sublist (c.delete k p).evs c.evs := by
  rcases delete_cases c k p with ⟨h, _⟩ | ⟨_, _, _, h⟩ <;> rw [h]
  · exact List.Sublist.refl _
  · exact List.filter_sublist

theorem delete_mem (c : Cache) (k p : String) (x : Event) (h : x ∈ (c.delete k p).evs) : x ∈ c.evs :=
  (delete_sublist c k p).subset h

theorem keys_nodup_delete (c : Cache) (k p : String) (h : (c.evs.map eventKey).Nodup) :
    ((c.delete k p).evs.map eventKey).Nodup :=
  List.Pairwise.sublist ((delete_sublist c k p).map eventKey) h

theorem mem_delete_evs (c : Cache) (k p : String) (hk : (c.evs.map eventKey).Nodup) (x : Event) :
    x ∈ (c.delete k p).evs ↔ x ∈ c.evs ∧ ¬(eventKey x = k ∧ x.pubkey = p) := by
  rcases delete_cases c k p with ⟨h, hne⟩ | ⟨y, hl, hp, h⟩ <;> rw [h]
  · exact ⟨fun hx => ⟨hx, fun h' => hne x (h'.1 ▸ lookup_own_key c x hx hk) h'.2⟩, And.left⟩
  · simp only [List.mem_filter, bne_iff_ne, ne_eq]
    refine ⟨fun h' => ⟨h'.1, fun h'' => h'.2 h''.1⟩, fun h' => ⟨h'.1, fun hxk => h'.2 ⟨hxk, ?_⟩⟩⟩
    rw [key_inj c hk x y h'.1 (lookup_mem c k y hl).1 (hxk.trans (lookup_mem c k y hl).2.symm)]
    exact hp

theorem mem_delete_deleted (c : Cache) (k p : String) (hk : (c.evs.map eventKey).Nodup) (t : String × String × String) :
    t ∈ (c.delete k p).deleted ↔ t ∈ c.deleted ∧
      ∀ d ∈ c.evs, d.kind = 5 → d.pubkey = t.2.1 → d.id = t.2.2 → t.1 ∈ k5Refs d → d ∈ (c.delete k p).evs := by
  simp only [mem_delete_evs c k p hk]
  rcases delete_cases c k p with ⟨h, hne⟩ | ⟨y, hl, hp, h⟩ <;> rw [h]
  · exact ⟨fun ht => ⟨ht, fun d hd _ _ _ _ => ⟨hd, fun h' => hne d (h'.1 ▸ lookup_own_key c d hd hk) h'.2⟩⟩, And.left⟩
  · have hy := lookup_mem c k y hl
    have hfound : ∀ d ∈ c.evs, eventKey d = k → d = y := fun d hd hdk => key_inj c hk d y hd hy.1 (hdk.trans hy.2.symm)
    by_cases h5 : y.kind = 5
    · simp only [h5, if_true, List.mem_filter, Bool.not_eq_true', ← Bool.not_eq_true, Bool.and_eq_true, beq_iff_eq,
        List.contains_iff_mem, and_assoc]
      exact and_congr_right fun ht => ⟨fun hn d hd hd5 hdp hdi hdr => ⟨hd, fun h' => by
          cases hfound d hd h'.1; exact hn ⟨hdr, hdp.symm, hdi.symm⟩⟩,
        fun hall hn => (hall y hy.1 h5 hn.2.1.symm hn.2.2.symm hn.1).2 ⟨hy.2, hp⟩⟩
    · simp only [h5, if_false]
      refine ⟨fun ht => ⟨ht, fun d hd hd5 _ _ _ => ⟨hd, fun h' => h5 ?_⟩⟩, And.left⟩
      rw [← hfound d hd h'.1]; exact hd5

theorem delete_deleted_subset (c : Cache) (k p : String) (hk : (c.evs.map eventKey).Nodup) :
    ∀ t ∈ (c.delete k p).deleted, t ∈ c.deleted :=
  fun t ht => ((mem_delete_deleted c k p hk t).1 ht).1

/-- A key not in use and a key holding an older event are one branch: `c0` is `c.delete k p` for some `p`, which is
    `c` when nothing is stored under `k`. -/
theorem addEv_cases (c : Cache) (k : String) (e : Event) :
    (∃ old, c.lookup k = some old ∧ e.createdAt ≤ old.createdAt) ∧ c.addEv k e = (c, false) ∨
    (∀ old, c.lookup k = some old → old.createdAt < e.createdAt) ∧
      ∃ c0, (∃ p, c0 = c.delete k p) ∧ c0.evs = c.evs.filter (fun y => eventKey y != k) ∧
        c.addEv k e = ({ c0 with evs := e :: c0.evs }, true) := by
  unfold Cache.addEv
  cases hl : c.lookup k with
  | none =>
    refine Or.inr ⟨fun _ h => (nomatch h), c, ⟨"", (delete_lookup_none c k "" hl).symm⟩, ?_, rfl⟩
    exact (List.filter_eq_self.2 fun y hy => by simpa using lookup_none c k hl y hy).symm
  | some old =>
    by_cases h : old.createdAt ≥ e.createdAt
    · exact Or.inl ⟨⟨old, rfl, h⟩, by simp [Gen.addKeepsOld, h]⟩
    · exact Or.inr ⟨fun o ho => by cases ho; exact Int.not_le.1 h, _, ⟨_, rfl⟩, delete_own c k old hl,
        by simp [Gen.addKeepsOld, h]⟩

/-- `c'` is `c` with some events removed; the registry may differ.  `delete`, `addKind5`, `deleteByKind5` and the
    eviction only do this, so whatever sublists inherit (distinct keys, a bound on the number of events, a property of
    every event) survives them. -/
def Le (c' c : Cache) : Prop := c'.cap = c.cap ∧ c'.evs.Sublist c.evs

theorem Le.refl (c : Cache) : Le c c := ⟨rfl, List.Sublist.refl _⟩

theorem Le.trans {a b c : Cache} (h1 : Le a b) (h2 : Le b c) : Le a c := ⟨h1.1.trans h2.1, h1.2.trans h2.2⟩

theorem Le.keys {c' c : Cache} (h : Le c' c) (hk : (c.evs.map eventKey).Nodup) : (c'.evs.map eventKey).Nodup :=
  List.Pairwise.sublist (h.2.map eventKey) hk

theorem delete_le (c : Cache) (k p : String) : Le (c.delete k p) c := ⟨delete_cap c k p, delete_sublist c k p⟩

theorem addKind5_evs (c : Cache) (e : Event) : (c.addKind5 e).evs = c.evs := rfl
theorem addKind5_cap (c : Cache) (e : Event) : (c.addKind5 e).cap = c.cap := rfl

theorem deleteByKind5_props (P : Cache → Prop) (c : Cache) (e : Event)
    (hP : ∀ c k, P c → P (c.delete k e.pubkey)) (h : P c) : P (c.deleteByKind5 e) :=
  List.foldlRecOn _ _ h fun c hc k _ => List.foldlRecOn _ _ (hP c k hc) fun c' hc' _ _ => hP c' _ hc'

theorem deleteByKind5_le (c : Cache) (e : Event) : Le (c.deleteByKind5 e) c :=
  deleteByKind5_props (Le · c) c e (fun c' k h => (delete_le c' k _).trans h) (Le.refl c)

theorem deleteByKind5_mem (c : Cache) (e : Event) (x : Event) (h : x ∈ (c.deleteByKind5 e).evs) : x ∈ c.evs :=
  (deleteByKind5_le c e).2.subset h

/-- the deletion request `d` names `x`: same author, and among its references (e and a tags alike) is the key `x` is
    stored under (its address, if it has one) or its id -/
structure Names (d x : Event) : Prop where
  author : d.pubkey = x.pubkey
  ref : eventKey x ∈ k5Refs d ∨ x.id ∈ k5Refs d

theorem foldl_mem_evs {α} (step : Cache → α → Cache) (R : α → Event → Prop)
    (hstep : ∀ c a, (c.evs.map eventKey).Nodup → ((step c a).evs.map eventKey).Nodup ∧
      ∀ x, x ∈ (step c a).evs ↔ x ∈ c.evs ∧ ¬R a x) (as : List α) (c : Cache) (hk : (c.evs.map eventKey).Nodup) :
    ((as.foldl step c).evs.map eventKey).Nodup ∧ ∀ x, x ∈ (as.foldl step c).evs ↔ x ∈ c.evs ∧ ∀ a ∈ as, ¬R a x := by
  induction as generalizing c with
  | nil => exact ⟨hk, fun x => by simp⟩
  | cons a as ih =>
    obtain ⟨h1, h2⟩ := hstep c a hk
    refine ⟨(ih _ h1).1, fun x => ?_⟩
    rw [List.foldl_cons, (ih _ h1).2, h2, List.forall_mem_cons, and_assoc]

/-- `c'` is one round of `deleteByKind5` on behalf of `p` -/
theorem mem_deleteRef_evs (c : Cache) (p k : String) (hk : (c.evs.map eventKey).Nodup) :
    let c' := ((c.delete k p).evs.filter (fun x => x.id == k)).foldl (fun c x => c.delete (eventKey x) p) (c.delete k p)
    (c'.evs.map eventKey).Nodup ∧ ∀ x, x ∈ c'.evs ↔ x ∈ c.evs ∧ ¬(x.pubkey = p ∧ (eventKey x = k ∨ x.id = k)) := by
  have := foldl_mem_evs (fun c (y : Event) => c.delete (eventKey y) p) (fun y x => eventKey x = eventKey y ∧ x.pubkey = p)
    (fun c y hk => ⟨keys_nodup_delete c _ _ hk, mem_delete_evs c _ _ hk⟩)
    ((c.delete k p).evs.filter (fun x => x.id == k)) _ (keys_nodup_delete c k p hk)
  refine ⟨this.1, fun x => ?_⟩
  rw [this.2, mem_delete_evs c k _ hk, and_assoc]
  refine and_congr_right fun hx => ⟨fun ⟨h1, h2⟩ ⟨hp, hr⟩ => ?_,
    fun h => ⟨fun ⟨a, b⟩ => h ⟨b, Or.inl a⟩, fun y hy ⟨hxy, hp⟩ => h ⟨hp, Or.inr ?_⟩⟩⟩
  · by_cases hxk : eventKey x = k
    · exact h1 ⟨hxk, hp⟩
    · refine h2 x (List.mem_filter.2 ⟨(mem_delete_evs c k _ hk x).2 ⟨hx, fun h => hxk h.1⟩, ?_⟩) ⟨rfl, hp⟩
      simpa using hr.resolve_left hxk
  · obtain ⟨hy1, hy2⟩ := List.mem_filter.1 hy
    rw [key_inj c hk x y hx (delete_mem c k _ y hy1) hxy]
    simpa using hy2

theorem mem_deleteByKind5_evs (c : Cache) (e : Event) (hk : (c.evs.map eventKey).Nodup) (x : Event) :
    x ∈ (c.deleteByKind5 e).evs ↔ x ∈ c.evs ∧ ¬Names e x := by
  refine ((foldl_mem_evs _ _ (fun c k hk => mem_deleteRef_evs c e.pubkey k hk) (k5Refs e) c hk).2 x).trans
    (and_congr_right fun _ => ?_)
  exact ⟨fun h ⟨hp, hr⟩ => hr.elim (fun hr => h _ hr ⟨hp.symm, Or.inl rfl⟩) (fun hr => h _ hr ⟨hp.symm, Or.inr rfl⟩),
    fun h k hk ⟨hp, hr⟩ => h ⟨hp.symm, hr.elim (fun hr => Or.inl (hr ▸ hk)) (fun hr => Or.inr (hr ▸ hk))⟩⟩

theorem oldestOf_cons (e : Event) (es : List Event) :
    oldestOf es = none ∧ oldestOf (e :: es) = some e ∨
    ∃ o, oldestOf es = some o ∧ oldestOf (e :: es) = some (if before o e then e else o) := by
  rw [oldestOf]
  cases oldestOf es with
  | none => exact Or.inl ⟨rfl, rfl⟩
  | some o => exact Or.inr ⟨o, rfl, (apply_ite some ..).symm⟩

theorem oldestOf_none (l : List Event) (h : oldestOf l = none) : l = [] := by
  cases l with
  | nil => rfl
  | cons e es => rcases oldestOf_cons e es with ⟨_, h'⟩ | ⟨_, _, h'⟩ <;> cases h'.symm.trans h

theorem oldestOf_mem (l : List Event) (o : Event) (h : oldestOf l = some o) : o ∈ l := by
  induction l generalizing o with
  | nil => cases h
  | cons e es ih =>
    rcases oldestOf_cons e es with ⟨_, h'⟩ | ⟨o', ho', h'⟩ <;> cases h'.symm.trans h
    · exact List.mem_cons_self
    · by_cases hb : before o' e = true
      · rw [if_pos hb]; exact List.mem_cons_self
      · rw [if_neg hb]; exact List.mem_cons_of_mem _ (ih o' ho')

/-- the last step of `EventCache.Add`: `if len(c.evs) > c.Cap { … c.delete(key of getOldestEvent) }` -/
def evict (c : Cache) : Cache :=
  if Gen.addOverCap c.evs.length c.cap then
    match oldestOf c.evs with
    | some o => c.delete (eventKey o) o.pubkey
    | none => c
  else c

theorem evict_cases (c : Cache) :
    evict c = c ∧ ((c.evs.length : Int) ≤ c.cap ∨ c.evs = []) ∨
    ∃ o, oldestOf c.evs = some o ∧ (c.evs.length : Int) > c.cap ∧ evict c = c.delete (eventKey o) o.pubkey := by
  unfold evict Gen.addOverCap
  by_cases h : (c.evs.length : Int) > c.cap
  · rw [if_pos (decide_eq_true h)]
    cases ho : oldestOf c.evs with
    | none => exact Or.inl ⟨rfl, Or.inr (oldestOf_none _ ho)⟩
    | some o => exact Or.inr ⟨o, rfl, h, rfl⟩
  · exact Or.inl ⟨if_neg (mt of_decide_eq_true h), Or.inl (Int.not_lt.1 h)⟩

theorem evict_props (P : Cache → Prop) (hdel : ∀ c k p, P c → P (c.delete k p)) (c : Cache) (h : P c) :
    P (evict c) := by
  rcases evict_cases c with ⟨h', _⟩ | ⟨o, _, _, h'⟩ <;> rw [h']
  · exact h
  · exact hdel _ _ _ h

theorem evict_le (c : Cache) : Le (evict c) c :=
  evict_props (Le · c) (fun c' k p h => (delete_le c' k p).trans h) c (Le.refl c)

theorem mem_evict_evs (c : Cache) (hk : (c.evs.map eventKey).Nodup) (x : Event) :
    x ∈ (evict c).evs ↔ x ∈ c.evs ∧ ¬((c.evs.length : Int) > c.cap ∧ oldestOf c.evs = some x) := by
  rcases evict_cases c with ⟨h, hle | hnil⟩ | ⟨o, ho, hover, h⟩ <;> rw [h]
  · exact (and_iff_left fun h' => Int.not_lt.2 hle h'.1).symm
  · rw [hnil]
    exact iff_of_false List.not_mem_nil fun h' => List.not_mem_nil h'.1
  · rw [mem_delete_evs c _ _ hk, ho]
    exact and_congr_right fun hx => not_congr
      ⟨fun hkp => ⟨hover, congrArg some (key_inj c hk x o hx (oldestOf_mem _ _ ho) hkp.1).symm⟩,
        fun h' => Option.some.inj h'.2 ▸ ⟨rfl, rfl⟩⟩

theorem evict_length (c : Cache) (hk : (c.evs.map eventKey).Nodup) (h0 : 0 ≤ c.cap)
    (h : (c.evs.length : Int) ≤ c.cap + 1) : ((evict c).evs.length : Int) ≤ c.cap := by
  rcases evict_cases c with ⟨h', hle | hnil⟩ | ⟨o, ho, _, h'⟩ <;> rw [h']
  · exact hle
  · rw [hnil]; exact h0
  · have hom := oldestOf_mem _ _ ho
    rw [delete_own c _ o (lookup_own_key c o hom hk)]
    have := List.length_filter_lt_length_iff_exists (p := fun y => eventKey y != eventKey o).2 ⟨o, hom, by simp⟩
    exact Int.le_of_lt_add_one (Int.lt_of_lt_of_le (Int.ofNat_lt.2 this) h)

/-- in `EventCache.Add`: `if event.Kind == 5 { c.addKind5(event); c.deleteByKind5(event) }` -/
def process (c : Cache) (e : Event) : Cache :=
  if Gen.addIsKind5 e.kind then (c.addKind5 e).deleteByKind5 e else c

theorem process_cases (c : Cache) (e : Event) :
    e.kind = 5 ∧ process c e = (c.addKind5 e).deleteByKind5 e ∨ e.kind ≠ 5 ∧ process c e = c := by
  unfold process Gen.addIsKind5
  by_cases h : e.kind = 5
  · exact Or.inl ⟨h, if_pos (beq_iff_eq.2 h)⟩
  · exact Or.inr ⟨h, if_neg (mt beq_iff_eq.1 h)⟩

theorem process_le (c : Cache) (e : Event) : Le (process c e) c := by
  rcases process_cases c e with ⟨_, h⟩ | ⟨_, h⟩ <;> rw [h]
  · exact deleteByKind5_le (c.addKind5 e) e
  · exact Le.refl c

theorem mem_process_evs (c : Cache) (e : Event) (hk : (c.evs.map eventKey).Nodup) (x : Event) :
    x ∈ (process c e).evs ↔ x ∈ c.evs ∧ ¬(e.kind = 5 ∧ Names e x) := by
  rcases process_cases c e with ⟨h5, h⟩ | ⟨h5, h⟩ <;> rw [h]
  · exact (mem_deleteByKind5_evs (c.addKind5 e) e hk x).trans
      (and_congr_right fun _ => not_congr (and_iff_right h5).symm)
  · exact (and_iff_left fun h => h5 h.1).symm

/-- the shape in which `CCache.add` is written -/
theorem add_eq_ite (c : Cache) (e : Event) :
    c.add e =
      if eventType e.kind == .ephemeral then (c, true)
      else if Gen.addBlocked (c.isDeleted (eventKey e) e.pubkey) (c.isDeleted e.id e.pubkey) then (c, false)
      else if (c.addEv (eventKey e) e).2 then (evict (process (c.addEv (eventKey e) e).1 e), true)
      else (c, false) := by
  unfold Cache.add evict process
  dsimp only
  rcases c.addEv (eventKey e) e with ⟨c1, _ | _⟩ <;> rfl

theorem add_cases (c : Cache) (e : Event) :
    eventType e.kind = .ephemeral ∧ c.add e = (c, true) ∨
    eventType e.kind ≠ .ephemeral ∧
      ((c.isDeleted (eventKey e) e.pubkey || c.isDeleted e.id e.pubkey) = true ∨
        ∃ old, c.lookup (eventKey e) = some old ∧ e.createdAt ≤ old.createdAt) ∧
      c.add e = (c, false) ∨
    eventType e.kind ≠ .ephemeral ∧
      (c.isDeleted (eventKey e) e.pubkey || c.isDeleted e.id e.pubkey) = false ∧
      (∀ old, c.lookup (eventKey e) = some old → old.createdAt < e.createdAt) ∧
      ∃ c0, (∃ p, c0 = c.delete (eventKey e) p) ∧ c0.evs = c.evs.filter (fun y => eventKey y != eventKey e) ∧
        c.add e = (evict (process { c0 with evs := e :: c0.evs } e), true) := by
  rw [add_eq_ite]
  unfold Gen.addBlocked
  by_cases h : eventType e.kind = .ephemeral
  · exact Or.inl ⟨h, if_pos (beq_iff_eq.2 h)⟩
  · rw [if_neg (mt beq_iff_eq.1 h)]
    refine Or.inr ?_
    by_cases hb : (c.isDeleted (eventKey e) e.pubkey || c.isDeleted e.id e.pubkey) = true
    · exact Or.inl ⟨h, Or.inl hb, if_pos hb⟩
    · rw [if_neg hb]
      rcases addEv_cases c (eventKey e) e with ⟨hold, h'⟩ | ⟨hnew, c0, h0, hev, h'⟩ <;> rw [h']
      · exact Or.inl ⟨h, Or.inr hold, rfl⟩
      · exact Or.inr ⟨h, Bool.eq_false_iff.2 hb, hnew, c0, h0, hev, rfl⟩

theorem add_fresh (c : Cache) (e : Event) (heph : eventType e.kind ≠ .ephemeral)
    (hb : (c.isDeleted (eventKey e) e.pubkey || c.isDeleted e.id e.pubkey) = false)
    (hl : c.lookup (eventKey e) = none) : c.add e = (evict (process { c with evs := e :: c.evs } e), true) := by
  rcases add_cases c e with ⟨he, _⟩ | ⟨_, hr, _⟩ | ⟨_, _, _, c0, ⟨p, rfl⟩, _, h⟩
  · exact absurd he heph
  · rcases hr with hr | ⟨old, hl', _⟩
    · rw [hb] at hr; cases hr
    · rw [hl] at hl'; cases hl'
  · rw [h, delete_lookup_none c _ p hl]

theorem add_props (P : Cache → Prop) (c : Cache) (e : Event)
    (hdel : ∀ c k p, P c → P (c.delete k p))
    (hins : ∀ c0, P c0 → (∀ x ∈ c0.evs, eventKey x ≠ eventKey e) → P { c0 with evs := e :: c0.evs })
    (hreg : e.kind = 5 → ∀ c1, P c1 → e ∈ c1.evs → P (c1.addKind5 e)) (h : P c) : P (c.add e).1 := by
  rcases add_cases c e with ⟨_, h'⟩ | ⟨_, _, h'⟩ | ⟨_, _, _, c0, h0, hev, h'⟩ <;> rw [h']
  · exact h
  · exact h
  · have h1 : P { c0 with evs := e :: c0.evs } := by
      obtain ⟨p, rfl⟩ := h0
      refine hins _ (hdel _ _ _ h) fun x hx => ?_
      rw [hev] at hx
      simpa using (List.mem_filter.1 hx).2
    refine evict_props P hdel _ ?_
    rcases process_cases _ e with ⟨h5, h'⟩ | ⟨_, h'⟩ <;> rw [h']
    · exact deleteByKind5_props P _ e (fun c k => hdel c k _) (hreg h5 _ h1 List.mem_cons_self)
    · exact h1

end Moc.CacheL
