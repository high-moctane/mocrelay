/-
  C01 — Event authenticity: id and signature checked exactly per NIP-01 / BIP-340.

  Model: `serializeChars`, `escString`, `verify` (MocModel/Serialize.lean; the escape table is regenerated
  from the switch of `appendNIP01String`).  Spec: `SerSpec.nip01Canonical` (MocModel/Spec/Serialize.lean).
  SHA-256 and the BIP-340 check are parameters here (`hashHex`, `SigOracle`); C01Sig.lean puts the Lean SHA-256 and
  the Lean BIP-340 in their place.  The cryptographic clauses ("every correctly signed event is authentic", "changing
  a signed field breaks it") rest on collision resistance / unforgeability and are validated on every generated
  signature, not proved.
-/
import MocModel.Spec.Serialize

namespace Moc.C01
open Moc.SerSpec

/-- the statements of `Event.Serialize`, `appendNIP01String` and `Event.Verify` that the model translates by hand are
    the ones in the source -/
theorem serialize_source_pinned : serializeActualSource = serializeExpectedSource := by rfl

theorem lookup_cons_char {β} (c d : Char) {n : Int} (hn : n = d.toNat) (b : β) (l : List (Int × β)) :
    ((n, b) :: l).lookup (c.toNat : Int) = if c = d then some b else l.lookup (c.toNat : Int) := by
  have : ((c.toNat : Int) == n) = decide (c = d) := by
    rw [hn, Bool.eq_iff_iff, beq_iff_eq, decide_eq_true_iff, Int.natCast_inj, Char.toNat_inj]
  rw [List.lookup_cons, this]
  by_cases h : c = d <;> simp [h]

theorem escTable_lookup (c : Char) : (escTable.lookup (c.toNat : Int)).map String.toList = mandatedEscape c := by
  -- case by case: each regenerated case value is the code of the character the NIP names
  rw [escTable, lookup_cons_char c '"' (rfl : Gen.escCase0 = _), lookup_cons_char c '\\' (rfl : Gen.escCase1 = _),
    lookup_cons_char c '\n' (rfl : Gen.escCase2 = _), lookup_cons_char c '\r' (rfl : Gen.escCase3 = _),
    lookup_cons_char c '\t' (rfl : Gen.escCase4 = _), lookup_cons_char c '\x08' (rfl : Gen.escCase5 = _),
    lookup_cons_char c '\x0c' (rfl : Gen.escCase6 = _), List.lookup_nil]
  simp only [apply_ite (Option.map String.toList), Option.map_some, Option.map_none]
  rfl

/-- `canonChar`: one of the seven mandated escapes, `\u00xx` for the other C0 controls, the character itself otherwise; so
    `<`, `>`, `&`, U+2028, U+2029, DEL and all of the astral planes are written verbatim. -/
theorem escRune_eq_canonChar (c : Char) : escRune c = canonChar c := by
  unfold escRune canonChar
  rw [← escTable_lookup]
  cases escTable.lookup (c.toNat : Int) with
  | some out => rfl
  | none =>
    have : ((c.toNat : Int) < 32) ↔ c.toNat < 0x20 := by omega
    simp [Gen.escControl, this]

theorem escString_eq (s : String) : escString s = canonString s := by
  rw [escString, funext escRune_eq_canonChar]
  rfl

theorem serialize_eq_canonical (e : Event) : serializeChars e = nip01Canonical e := by
  rw [serializeChars, funext escString_eq]
  rfl

theorem verify_true_iff (hashHex : String) (o : SigOracle) (e : Event) :
    verify hashHex o e = .ok true ↔
      (∃ idBin, hexDecode e.id.toList = some idBin ∧ hexDecode hashHex.toList = some idBin) ∧
      (hexDecode e.pubkey.toList).isSome ∧ o.pubkeyParses = true ∧
      (hexDecode e.sig.toList).isSome ∧ o.sigParses = true ∧ o.verifies = true := by
  unfold verify
  generalize hexDecode e.id.toList = id, hexDecode hashHex.toList = hash, hexDecode e.pubkey.toList = pk,
    hexDecode e.sig.toList = sg
  simp only [Gen.verifyIdMismatch]
  cases id with
  | none => simp
  | some idBin =>
    by_cases heq : some idBin = hash
    · subst heq
      cases pk with
      | none => simp
      | some _ =>
        cases sg with
        | none => simp
        | some _ => cases o.pubkeyParses <;> cases o.sigParses <;> simp
    · simp [heq, Ne.symm heq]

theorem id_mismatch_not_authentic (hashHex : String) (o : SigOracle) (e : Event)
    (h : hexDecode e.id.toList ≠ hexDecode hashHex.toList) : verify hashHex o e ≠ .ok true := by
  intro hv
  obtain ⟨⟨idBin, h1, h2⟩, _⟩ := (verify_true_iff hashHex o e).1 hv
  exact h (by rw [h1, h2])

theorem bad_signature_not_authentic (hashHex : String) (o : SigOracle) (e : Event) (h : o.verifies = false) :
    verify hashHex o e ≠ .ok true := by
  intro hv
  have := ((verify_true_iff hashHex o e).1 hv).2.2.2.2.2
  rw [h] at this; cases this

example : String.ofList (serializeChars { id := "", pubkey := "ab", createdAt := 1, kind := 1, tags := [["t", "<&>"]], content := "a\"b\n\x01  ", sig := "" })
    = "[0,\"ab\",1,1,[[\"t\",\"<&>\"]],\"a\\\"b\\n\\u0001  \"]" := by rfl

end Moc.C01
