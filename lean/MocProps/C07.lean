/-
  C07 — Router: live events reach exactly the open matching subscriptions, once.

  Model: the labelled transition system of MocModel/Router.lean, one step per critical section of `safeMap`; the
  source text it was written against is pinned (`router_source_pinned`), `SendIfMatch`'s test is regenerated.
  The theorems here are about one step, or one publish run to completion, in an arbitrary state, so they hold
  under every interleaving; schedules are the subject of C07Sched.lean.  Not proved, validated at run time: that
  Go's RWMutex and channels realise only schedules of this system, how wall-clock observations map to its steps,
  and per-publisher order.
-/
import MocModel.Spec.Nip01
import MocModel.Router
import MocProps.C02
import MocProps.MergeLemmas

namespace Moc.C07

theorem router_source_pinned : routerActualSource = routerExpectedSource := rfl

theorem nGet_nSet_self {β} (l : List (Conn × β)) (k : Conn) (v : β) : nGet (nSet l k v) k = some v :=
  List.lookup_cons_self

theorem nGet_nSet_ne {β} (l : List (Conn × β)) (k k' : Conn) (v : β) (h : k' ≠ k) :
    nGet (nSet l k v) k' = nGet l k' :=
  lookup_set_ne l v h

theorem nGet_nErase_self {β} (l : List (Conn × β)) (k : Conn) : nGet (nErase l k) k = none :=
  lookup_filter_self l k

theorem nGet_nErase_ne {β} (l : List (Conn × β)) (k k' : Conn) (h : k' ≠ k) : nGet (nErase l k) k' = nGet l k' :=
  lookup_filter_ne l h

/-- Match and label: what a visit tries to enqueue is `EVENT s e` under the subscription's own id, for exactly the
    subscriptions whose filters match per NIP-01. -/
theorem matched_spec (subs : List (String × List Filter)) (e : Event)
    (hwf : ∀ p ∈ subs, ∀ f ∈ p.2, f.WF) (hne : C02.TagsNonEmpty e) :
    matched subs e = .ok (subs.filterMap fun p => if nip01MatchAnyB p.2 e then some (.event p.1 e) else none) := by
  induction subs with
  | nil => rfl
  | cons p ps ih =>
    obtain ⟨s, fs⟩ := p
    rw [matched, C02.matchAny_eq_spec fs e (hwf (s, fs) List.mem_cons_self) hne,
      ih fun q hq => hwf q (List.mem_cons_of_mem _ hq), List.filterMap_cons]
    cases nip01MatchAnyB fs e <;> rfl

theorem enqueue_eq (buflen : Nat) (q ms : List ServerMsg) :
    enqueue buflen q ms = q ++ ms.take (buflen - q.length) := by
  induction ms generalizing q with
  | nil => rw [enqueue, List.take_nil, List.append_nil]
  | cons m ms ih =>
    rw [enqueue]
    by_cases h : q.length < buflen
    · rw [if_pos h, ih, List.length_append, List.length_singleton, List.append_assoc, List.singleton_append,
        ← Nat.succ_pred_eq_of_pos (Nat.sub_pos_of_lt h), List.take_succ_cons, Nat.sub_succ]
    · rw [if_neg h, ih, Nat.sub_eq_zero_of_le (Nat.le_of_not_lt h), List.take_zero, List.take_zero]

theorem enqueue_length (buflen : Nat) (q ms : List ServerMsg) :
    (enqueue buflen q ms).length = q.length + min (buflen - q.length) ms.length := by
  rw [enqueue_eq, List.length_append, List.length_take]

theorem enqueue_all (buflen : Nat) (q ms : List ServerMsg) (h : q.length + ms.length ≤ buflen) :
    enqueue buflen q ms = q ++ ms := by
  rw [enqueue_eq, List.take_of_length_le (Nat.le_sub_of_add_le' h)]

/-- "Only its own deliveries beyond the configured buffer are dropped": a visit that dropped something leaves the
    queue full. -/
theorem enqueue_drop_only_when_full (buflen : Nat) (q ms : List ServerMsg) (hq : q.length ≤ buflen)
    (hdrop : (enqueue buflen q ms).length < q.length + ms.length) : (enqueue buflen q ms).length = buflen := by
  rw [enqueue_length] at hdrop ⊢
  rcases Nat.le_total (buflen - q.length) ms.length with h | h
  · rw [Nat.min_eq_left h, Nat.add_sub_cancel' hq]
  · rw [Nat.min_eq_right h] at hdrop; exact absurd hdrop (Nat.lt_irrefl _)

theorem enqueue_bounded (buflen : Nat) (q ms : List ServerMsg) (hq : q.length ≤ buflen) :
    (enqueue buflen q ms).length ≤ buflen := by
  rw [enqueue_length]
  exact Nat.le_trans (Nat.add_le_add_left (Nat.min_le_left ..) _) (Nat.le_of_eq (Nat.add_sub_cancel' hq))

theorem enqueue_prefix (buflen : Nat) (q ms : List ServerMsg) : q <+: enqueue buflen q ms := by
  rw [enqueue_eq]; exact List.prefix_append _ _

/-- what a publish of `e` owes connection `c`: one `EVENT s e` per registered subscription whose filters match -/
def owedTo (st : RSt) (c : Conn) (e : Event) : List ServerMsg :=
  ((nGet st.reg c).getD []).filterMap fun q => if nip01MatchAnyB q.2 e then some (.event q.1 e) else none

/-- the `#x` keys of a registered filter are distinct, as the keys of the Go map are -/
def RegWF (st : RSt) : Prop := ∀ c, ∀ q ∈ (nGet st.reg c).getD [], ∀ f ∈ q.2, f.WF

/-- a connection's subscription ids are distinct (Go map keys) -/
def SubsOK (st : RSt) : Prop := ∀ c subs, nGet st.reg c = some subs → (subs.map Prod.fst).Nodup

theorem owed_sound (st : RSt) (c : Conn) (e : Event) (m : ServerMsg) (h : m ∈ owedTo st c e) :
    ∃ s fs, (s, fs) ∈ (nGet st.reg c).getD [] ∧ m = .event s e ∧ nip01MatchAnyB fs e = true := by
  obtain ⟨⟨s, fs⟩, hin, hq⟩ := List.mem_filterMap.1 h
  obtain ⟨hb, hm⟩ := Option.ite_none_right_eq_some.1 hq
  exact ⟨s, fs, hin, (Option.some.inj hm).symm, hb⟩

theorem owed_count_absent (subs : List (String × List Filter)) (e : Event) (s : String)
    (h : s ∉ subs.map Prod.fst) :
    (subs.filterMap fun q => if nip01MatchAnyB q.2 e then some (ServerMsg.event q.1 e) else none).count
      (.event s e) = 0 := by
  rw [List.count_eq_zero]
  intro hm
  obtain ⟨q, hq, hqe⟩ := List.mem_filterMap.1 hm
  cases (Option.ite_none_right_eq_some.1 hqe).2
  exact h (List.mem_map.2 ⟨q, hq, rfl⟩)

theorem owed_count_nodup (subs : List (String × List Filter)) (e : Event) (s : String) (fs : List Filter)
    (hnd : (subs.map Prod.fst).Nodup) (hmem : (s, fs) ∈ subs) :
    (subs.filterMap fun q => if nip01MatchAnyB q.2 e then some (ServerMsg.event q.1 e) else none).count
      (.event s e) = if nip01MatchAnyB fs e then 1 else 0 := by
  -- the entry of `s` splits the list into two parts without `s`
  obtain ⟨l₁, l₂, rfl⟩ := List.append_of_mem hmem
  rw [List.map_append, List.map_cons, List.nodup_append] at hnd
  have h₁ := owed_count_absent l₁ e s fun h => hnd.2.2 _ h _ List.mem_cons_self rfl
  have h₂ := owed_count_absent l₂ e s (List.nodup_cons.1 hnd.2.1).1
  rw [List.filterMap_append, List.filterMap_cons, List.count_append, h₁, Nat.zero_add]
  cases nip01MatchAnyB fs e
  · exact h₂
  · exact List.count_cons_self.trans (congrArg (· + 1) h₂)

theorem subsOK_getD (st : RSt) (hok : SubsOK st) (c : Conn) : (((nGet st.reg c).getD []).map Prod.fst).Nodup := by
  cases hg : nGet st.reg c with
  | none => exact List.nodup_nil
  | some subs => exact hok c subs hg

/-- "Exactly once", for what is owed; `SubsOK` is preserved by every step (`subsOK_step`). -/
theorem owed_count (st : RSt) (hok : SubsOK st) (c : Conn) (e : Event) (s : String) (fs : List Filter)
    (hmem : (s, fs) ∈ (nGet st.reg c).getD []) :
    (owedTo st c e).count (.event s e) = if nip01MatchAnyB fs e then 1 else 0 :=
  owed_count_nodup _ e s fs (subsOK_getD st hok c) hmem

/-! ### `RSt.step` and `RSt.enabled`, step by step

One equation per step; for a step that tests the state, one lemma whose branches carry their conditions (of
`RSt.enabled`, the three clauses that proofs read).  The proofs below and in C07Sched.lean start from these. -/

theorem step_subscribe (st : RSt) (c : Conn) (s : String) (fs : List Filter) :
    st.step (.subscribe c s fs) =
      ({ st with reg := nSet st.reg c (alSet ((nGet st.reg c).getD []) s fs) }, .ok []) := rfl

theorem step_unsubscribe_cases (st : RSt) (c : Conn) (s : String) :
    (nGet st.reg c = none ∧ st.step (.unsubscribe c s) = (st, .ok [])) ∨
    ∃ subs, nGet st.reg c = some subs ∧
      st.step (.unsubscribe c s) = ({ st with reg := nSet st.reg c (alErase subs s) }, .ok []) := by
  rw [RSt.step]
  cases nGet st.reg c with
  | none => exact .inl ⟨rfl, rfl⟩
  | some subs => exact .inr ⟨subs, rfl, rfl⟩

theorem step_unsubAll (st : RSt) (c : Conn) : st.step (.unsubAll c) = ({ st with reg := nErase st.reg c }, .ok []) := rfl

theorem step_pubBegin (st : RSt) (p : Conn) (e : Event) :
    st.step (.pubBegin p e) = ({ st with pubs := nSet st.pubs p { e := e, todo := st.reg.map (·.1) } }, .ok []) := rfl

theorem step_visit_cases (st : RSt) (p c : Conn) :
    (nGet st.pubs p = none ∧ st.step (.visit p c) = (st, .ok [])) ∨
    (∃ pb, nGet st.pubs p = some pb ∧ matched ((nGet st.reg c).getD []) pb.e = .panic ∧
      st.step (.visit p c) = (st, .panic)) ∨
    ∃ pb ms, nGet st.pubs p = some pb ∧ matched ((nGet st.reg c).getD []) pb.e = .ok ms ∧
      st.step (.visit p c) =
        ({ st with q := nSet st.q c (enqueue st.buflen ((nGet st.q c).getD []) ms),
                   pubs := nSet st.pubs p { pb with todo := pb.todo.filter (· != c) } }, .ok []) := by
  cases hp : nGet st.pubs p with
  | none => exact .inl ⟨rfl, by simp only [RSt.step, hp]⟩
  | some pb =>
    cases hm : matched ((nGet st.reg c).getD []) pb.e with
    | panic => exact .inr (.inl ⟨pb, rfl, hm, by simp only [RSt.step, hp, hm]⟩)
    | ok ms => exact .inr (.inr ⟨pb, ms, rfl, hm, by simp only [RSt.step, hp, hm]⟩)

/-- the branch of `step_visit_cases` that `hp` and `hm` select -/
theorem step_visit (st : RSt) (p c : Conn) (pb : Pub) (ms : List ServerMsg)
    (hp : nGet st.pubs p = some pb) (hm : matched ((nGet st.reg c).getD []) pb.e = .ok ms) :
    st.step (.visit p c) =
      ({ st with q := nSet st.q c (enqueue st.buflen ((nGet st.q c).getD []) ms),
                 pubs := nSet st.pubs p { pb with todo := pb.todo.filter (· != c) } }, .ok []) := by
  rcases step_visit_cases st p c with ⟨hn, _⟩ | ⟨pb', hp', hm', _⟩ | ⟨pb', ms', hp', hm', e⟩
  · cases hp.symm.trans hn
  · cases hp.symm.trans hp'; cases hm.symm.trans hm'
  · cases hp.symm.trans hp'; cases hm.symm.trans hm'; exact e

theorem step_pubEnd (st : RSt) (p : Conn) : st.step (.pubEnd p) = ({ st with pubs := nErase st.pubs p }, .ok []) := rfl

theorem step_deq_cases (st : RSt) (c : Conn) :
    ((nGet st.q c).getD [] = [] ∧ st.step (.deq c) = (st, .ok [])) ∨
    ∃ m rest, (nGet st.q c).getD [] = m :: rest ∧ st.step (.deq c) = ({ st with q := nSet st.q c rest }, .ok [m]) := by
  rw [RSt.step]
  cases (nGet st.q c).getD [] with
  | nil => exact .inl ⟨rfl, rfl⟩
  | cons m rest => exact .inr ⟨m, rest, rfl, rfl⟩

theorem enabled_pubBegin_eq (st : RSt) (p : Conn) (e : Event) :
    st.enabled (.pubBegin p e) = (nGet st.pubs p).isNone := rfl

theorem enabled_visit_eq (st : RSt) (p c : Conn) (pb : Pub) (hp : nGet st.pubs p = some pb) :
    st.enabled (.visit p c) = pb.todo.contains c := by
  simp only [RSt.enabled, hp]

theorem enabled_pubEnd_eq (st : RSt) (p : Conn) (pb : Pub) (hp : nGet st.pubs p = some pb) :
    st.enabled (.pubEnd p) = pb.todo.isEmpty := by
  simp only [RSt.enabled, hp]

theorem visit_effect (st : RSt) (p c : Conn) (pb : Pub) (ms : List ServerMsg)
    (hp : nGet st.pubs p = some pb) (hm : matched ((nGet st.reg c).getD []) pb.e = .ok ms) :
    let st' := (st.step (.visit p c)).1
    nGet st'.q c = some (enqueue st.buflen ((nGet st.q c).getD []) ms) ∧
    (∀ c', c' ≠ c → nGet st'.q c' = nGet st.q c') ∧ st'.reg = st.reg ∧ st'.buflen = st.buflen := by
  rw [step_visit st p c pb ms hp hm]
  exact ⟨nGet_nSet_self _ _ _, fun c' h => nGet_nSet_ne _ _ _ _ h, rfl, rfl⟩

/-- The negative clause: a visit adds only `EVENT s e` for subscriptions registered for the connection at that moment
    and matching, so one that does not match, was closed or replaced before, or whose connection has no entry gets
    nothing. -/
theorem visit_adds_only_open_matching (st : RSt) (p c : Conn) (pb : Pub)
    (hp : nGet st.pubs p = some pb)
    (hwf : ∀ q ∈ (nGet st.reg c).getD [], ∀ f ∈ q.2, f.WF) (hne : C02.TagsNonEmpty pb.e) :
    ∃ added, nGet (st.step (.visit p c)).1.q c = some ((nGet st.q c).getD [] ++ added) ∧
      ∀ m ∈ added, ∃ s fs, (s, fs) ∈ (nGet st.reg c).getD [] ∧ m = .event s pb.e ∧ nip01MatchAny fs pb.e := by
  obtain ⟨h1, _⟩ := visit_effect st p c pb _ hp (matched_spec _ pb.e hwf hne)
  refine ⟨_, by rw [h1, enqueue_eq], fun m hmem => ?_⟩
  obtain ⟨s, fs, hin, hm, hb⟩ := owed_sound st c pb.e m (List.mem_of_mem_take hmem)
  exact ⟨s, fs, hin, hm, (C02.nip01MatchAnyB_iff fs pb.e).1 hb⟩

theorem visit_delivers_all (st : RSt) (p c : Conn) (pb : Pub) (hp : nGet st.pubs p = some pb)
    (hwf : ∀ q ∈ (nGet st.reg c).getD [], ∀ f ∈ q.2, f.WF) (hne : C02.TagsNonEmpty pb.e)
    (hroom : ((nGet st.q c).getD []).length + ((nGet st.reg c).getD []).length ≤ st.buflen) :
    nGet (st.step (.visit p c)).1.q c = some ((nGet st.q c).getD [] ++
      ((nGet st.reg c).getD []).filterMap fun q => if nip01MatchAnyB q.2 pb.e then some (.event q.1 pb.e) else none) := by
  obtain ⟨h1, _⟩ := visit_effect st p c pb _ hp (matched_spec _ pb.e hwf hne)
  rw [h1, enqueue_all]
  exact Nat.le_trans (Nat.add_le_add_left (List.length_filterMap_le ..) _) hroom

theorem subscribe_registers (st : RSt) (c : Conn) (s : String) (fs : List Filter) :
    let st' := (st.step (.subscribe c s fs)).1
    (∃ subs, nGet st'.reg c = some subs ∧ alGet subs s = some fs ∧
      ∀ s', s' ≠ s → alGet subs s' = alGet ((nGet st.reg c).getD []) s') ∧
    (∀ c', c' ≠ c → nGet st'.reg c' = nGet st.reg c') ∧ st'.q = st.q := by
  rw [step_subscribe]
  exact ⟨⟨_, nGet_nSet_self _ _ _, alGet_alSet_self _ _ _, fun _ h => alGet_alSet_ne _ _ _ _ h⟩,
    fun _ h => nGet_nSet_ne _ _ _ _ h, rfl⟩

theorem unsubscribe_removes (st : RSt) (c : Conn) (s : String) :
    let st' := (st.step (.unsubscribe c s)).1
    alGet ((nGet st'.reg c).getD []) s = none ∧
    (∀ s', s' ≠ s → alGet ((nGet st'.reg c).getD []) s' = alGet ((nGet st.reg c).getD []) s') ∧
    (∀ c', c' ≠ c → nGet st'.reg c' = nGet st.reg c') := by
  rcases step_unsubscribe_cases st c s with ⟨hn, e⟩ | ⟨subs, hs, e⟩ <;> rw [e]
  · -- no entry for the connection: nothing to remove
    exact ⟨by rw [hn]; rfl, fun _ _ => rfl, fun _ _ => rfl⟩
  · simp only [nGet_nSet_self, hs, Option.getD_some]
    exact ⟨alGet_alErase_self _ _, fun _ h => alGet_alErase_ne _ _ _ h, fun _ hc => nGet_nSet_ne _ _ _ _ hc⟩

/-- the second conjunct is what `pubBegin` reads: no later publish visits the connection -/
theorem unsubAll_removes_everything (st : RSt) (c : Conn) :
    nGet (st.step (.unsubAll c)).1.reg c = none ∧ c ∉ ((st.step (.unsubAll c)).1.reg.map (·.1)) := by
  rw [step_unsubAll]
  exact ⟨nGet_nErase_self _ _, not_mem_keys_filter _ _⟩

theorem pubBegin_todo (st : RSt) (p : Conn) (e : Event) :
    nGet (st.step (.pubBegin p e)).1.pubs p = some { e := e, todo := st.reg.map (·.1) } := by
  rw [step_pubBegin]
  exact nGet_nSet_self _ _ _

theorem reg_pubBegin (st : RSt) (p : Conn) (e : Event) : (st.step (.pubBegin p e)).1.reg = st.reg := by
  rw [step_pubBegin]

theorem reg_pubEnd (st : RSt) (p : Conn) : (st.step (.pubEnd p)).1.reg = st.reg := by
  rw [step_pubEnd]

theorem reg_deq (st : RSt) (c : Conn) : (st.step (.deq c)).1.reg = st.reg := by
  rcases step_deq_cases st c with ⟨_, e⟩ | ⟨_, _, _, e⟩ <;> rw [e]

theorem reg_visit (st : RSt) (p c : Conn) : (st.step (.visit p c)).1.reg = st.reg := by
  rcases step_visit_cases st p c with ⟨_, e⟩ | ⟨_, _, _, e⟩ | ⟨_, _, _, _, e⟩ <;> rw [e]

/-- the four things a step can do to the registry; its invariants are proved per shape, not per step -/
theorem reg_step (st : RSt) (x : RStep) :
    (st.step x).1.reg = st.reg ∨
    (∃ c s fs, (st.step x).1.reg = nSet st.reg c (alSet ((nGet st.reg c).getD []) s fs)) ∨
    (∃ c s subs, nGet st.reg c = some subs ∧ (st.step x).1.reg = nSet st.reg c (alErase subs s)) ∨
    (∃ c, (st.step x).1.reg = nErase st.reg c) := by
  cases x with
  | subscribe c s fs => exact .inr (.inl ⟨c, s, fs, by rw [step_subscribe]⟩)
  | unsubscribe c s =>
    rcases step_unsubscribe_cases st c s with ⟨_, e⟩ | ⟨subs, h, e⟩ <;> rw [e]
    · exact .inl rfl
    · exact .inr (.inr (.inl ⟨c, s, subs, h, rfl⟩))
  | unsubAll c => exact .inr (.inr (.inr ⟨c, by rw [step_unsubAll]⟩))
  | pubBegin p e => exact .inl (reg_pubBegin st p e)
  | visit p c => exact .inl (reg_visit st p c)
  | pubEnd p => exact .inl (reg_pubEnd st p)
  | deq c => exact .inl (reg_deq st c)

/-- the premise `hnd` of `publish_queues` is preserved by every step -/
theorem reg_keys_nodup (st : RSt) (s : RStep) (h : (st.reg.map (·.1)).Nodup) :
    ((st.step s).1.reg.map (·.1)).Nodup := by
  rcases reg_step st s with e | ⟨_, _, _, e⟩ | ⟨_, _, _, _, e⟩ | ⟨_, e⟩ <;> rw [e]
  · exact h
  · exact keys_nodup_set _ _ _ h
  · exact keys_nodup_set _ _ _ h
  · exact keys_nodup_filter _ _ h

theorem subsOK_step (st : RSt) (s : RStep) (h : SubsOK st) : SubsOK (st.step s).1 := by
  have hset : ∀ c0 v, (v.map Prod.fst).Nodup → ∀ c subs, nGet (nSet st.reg c0 v) c = some subs →
      (subs.map Prod.fst).Nodup := by
    intro c0 v hv c subs hc
    by_cases hcc : c = c0
    · rw [hcc, nGet_nSet_self] at hc; cases hc; exact hv
    · rw [nGet_nSet_ne _ _ _ _ hcc] at hc; exact h c subs hc
  intro c subs hc
  rcases reg_step st s with e | ⟨c0, s0, fs, e⟩ | ⟨c0, s0, old, hg, e⟩ | ⟨c0, e⟩ <;> rw [e] at hc
  · exact h c subs hc
  · exact hset c0 _ (keys_nodup_set _ _ _ (subsOK_getD st h c0)) c subs hc
  · exact hset c0 _ (keys_nodup_filter _ _ (h c0 old hg)) c subs hc
  · by_cases hcc : c = c0
    · rw [hcc, nGet_nErase_self] at hc; cases hc
    · rw [nGet_nErase_ne _ _ _ hcc] at hc; exact h c subs hc

/-- No back-pressure on publishers.  `RSt.enabled` reads no queue — the model's rendering of the `default` branch
    of `trySendCtx` (pinned text) — so this holds by definition.  With `visit_enabled`: in the model a subscriber
    that stops reading cannot delay a publisher. -/
theorem enabled_indep_queues (st : RSt) (q' : List (Conn × List ServerMsg)) (s : RStep) :
    ({ st with q := q' } : RSt).enabled s = st.enabled s := by
  cases s <;> rfl

theorem visit_enabled (st : RSt) (p c : Conn) (pb : Pub) (hp : nGet st.pubs p = some pb) (hc : c ∈ pb.todo) :
    st.enabled (.visit p c) = true := by
  rw [enabled_visit_eq st p c pb hp]; exact List.contains_iff_mem.2 hc

theorem visit_once (st : RSt) (p c : Conn) (pb : Pub) (ms : List ServerMsg) (hp : nGet st.pubs p = some pb)
    (hm : matched ((nGet st.reg c).getD []) pb.e = .ok ms) :
    (st.step (.visit p c)).1.enabled (.visit p c) = false := by
  rw [step_visit st p c pb ms hp hm, enabled_visit_eq _ p c _ (nGet_nSet_self _ _ _)]
  simp

theorem publish_go_queues (p : Conn) (e : Event) (cs : List Conn) (hnd : cs.Nodup) :
    ∀ st : RSt, RegWF st → C02.TagsNonEmpty e → (∃ pb, nGet st.pubs p = some pb ∧ pb.e = e) →
      (RSt.publish.go p st cs).2 = .ok () ∧
      (RSt.publish.go p st cs).1.reg = st.reg ∧ (RSt.publish.go p st cs).1.buflen = st.buflen ∧
      (∀ c, nGet (RSt.publish.go p st cs).1.q c =
        if c ∈ cs then some (enqueue st.buflen ((nGet st.q c).getD []) (owedTo st c e)) else nGet st.q c) := by
  induction cs with
  | nil => intro st _ _ _; exact ⟨rfl, rfl, rfl, fun c => rfl⟩
  | cons c cs ih =>
    intro st hwf hne ⟨pb, hp, he⟩
    subst he
    have hm := matched_spec _ pb.e (hwf c) hne
    have hs := step_visit st p c pb _ hp hm
    obtain ⟨hq, hothers, hreg, hbuf⟩ := visit_effect st p c pb _ hp hm
    obtain ⟨r1, r2, r3, r4⟩ := ih (List.nodup_cons.1 hnd).2 (st.step (.visit p c)).1 (fun c' => hreg ▸ hwf c') hne
      ⟨_, by rw [hs]; exact nGet_nSet_self _ _ _, by rfl⟩
    rw [show RSt.publish.go p st (c :: cs) = RSt.publish.go p (st.step (.visit p c)).1 cs by
      rw [RSt.publish.go, hs]]
    refine ⟨r1, r2.trans hreg, r3.trans hbuf, fun c' => ?_⟩
    rw [r4 c']
    by_cases hc : c' = c
    · rw [hc, if_neg (List.nodup_cons.1 hnd).1, if_pos List.mem_cons_self, hq]; rfl
    · simp only [List.mem_cons, hc, false_or, hothers c' hc, hbuf, owedTo, hreg]

/-- A publish run to completion with no other step in between: every connection with an entry has what it is owed
    appended to its queue, as far as there is room. -/
theorem publish_queues (st : RSt) (p : Conn) (e : Event) (hwf : RegWF st) (hne : C02.TagsNonEmpty e)
    (hnd : (st.reg.map (·.1)).Nodup) :
    (st.publish p e).2 = .ok () ∧ (st.publish p e).1.reg = st.reg ∧
    ∀ c, nGet (st.publish p e).1.q c =
      if c ∈ st.reg.map (·.1) then some (enqueue st.buflen ((nGet st.q c).getD []) (owedTo st c e)) else nGet st.q c := by
  obtain ⟨r1, r2, _, r4⟩ := publish_go_queues p e (st.reg.map (·.1)) hnd (st.step (.pubBegin p e)).1 hwf hne
    ⟨_, pubBegin_todo st p e, rfl⟩
  -- no visit panics, so the publish ends with its `pubEnd`, which touches neither registry nor queues
  rw [RSt.publish, show RSt.publish.go p (st.step (.pubBegin p e)).1 (st.reg.map (·.1)) = (_, .ok ()) from
    Prod.ext rfl r1]
  exact ⟨rfl, r2, r4⟩

/-! non-vacuity: two connections, one with two subscriptions (one matching), buffer 1 -/
def exEv : Event := { id := "e1", pubkey := "p", createdAt := 1, kind := 1, tags := [], content := "", sig := "" }
def exSt : RSt :=
  (((({ buflen := 1 } : RSt).step (.subscribe 0 "a" [{ kinds := some [1] }])).1.step (.subscribe 0 "b" [{ kinds := some [2] }])).1.step
    (.subscribe 1 "z" [{}])).1
example : ((exSt.publish 2 exEv).1.q, (exSt.publish 2 exEv).2) =
    ([(0, [.event "a" exEv]), (1, [.event "z" exEv])], .ok ()) := by decide

end Moc.C07
