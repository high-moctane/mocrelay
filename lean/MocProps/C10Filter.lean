/-
  C10, the filter round trip (`filter_roundtrip`) and with it REQ and COUNT (`req_count_roundtrip`): the encoded
  object is the tag members followed by the fixed members, all keys distinct and known; the test of the Go code on the
  bytes of a key (`isTagKey`; on two ASCII characters it is `isTagKey_ascii`) tells the two parts apart (`isTagKey_hash`,
  `fixedNames_spec`), so every member is read back as written (`obj_two_parts`, `objGet_fixedKVs`).
-/
import MocProps.C10
import MocProps.ListMap
import MocProps.ListFacts

namespace Moc.C10

theorem objGet_of_mem (kvs : List (String × JT)) (k : String) (v : JT) (hnd : (kvs.map Prod.fst).Nodup)
    (h : (k, v) ∈ kvs) : objGet kvs k = some v :=
  (mem_iff_lookup_eq_some (l := kvs.reverse)
    (by rw [List.map_reverse]; exact List.pairwise_reverse.2 (hnd.imp Ne.symm))).1 (List.mem_reverse.2 h)

theorem objGet_none (kvs : List (String × JT)) (k : String) (h : k ∉ kvs.map Prod.fst) : objGet kvs k = none := by
  simp only [objGet, List.lookup_eq_none_iff, List.mem_reverse]
  intro p hp
  simpa using fun hk => h (List.mem_map.2 ⟨p, hp, hk.symm⟩)

/-- the last occurrence wins: the second part of an object is searched first -/
theorem objGet_append (a b : List (String × JT)) (k : String) :
    objGet (a ++ b) k = (objGet b k).or (objGet a k) := by
  simp [objGet, List.lookup_append]

/-- an object in two parts with distinct keys, told apart by a test `p` on the key: what `decodeFilter` finds in it -/
theorem obj_two_parts (p : String → Bool) (a b : List (String × JT))
    (ha : ∀ k ∈ a.map Prod.fst, p k = true) (hb : ∀ k ∈ b.map Prod.fst, p k = false)
    (hna : (a.map Prod.fst).Nodup) (hnb : (b.map Prod.fst).Nodup) :
    objKeys (a ++ b) = a.map Prod.fst ++ b.map Prod.fst ∧ (objKeys (a ++ b)).filter p = a.map Prod.fst ∧
    (∀ kv ∈ a, objGet (a ++ b) kv.1 = some kv.2) ∧ ∀ k, p k = false → objGet (a ++ b) k = objGet b k := by
  have hnd : ((a ++ b).map Prod.fst).Nodup := by
    rw [List.map_append, List.nodup_append]
    exact ⟨hna, hnb, fun k hka _ hkb hk => by simpa [ha k hka] using hb k (hk ▸ hkb)⟩
  have hkeys : objKeys (a ++ b) = a.map Prod.fst ++ b.map Prod.fst := by
    rw [objKeys, eraseDups_of_nodup _ hnd, List.map_append]
  refine ⟨hkeys, ?_, fun kv hkv => objGet_of_mem _ _ _ hnd (List.mem_append_left _ hkv), fun k hk => ?_⟩
  · rw [hkeys, List.filter_append, List.filter_eq_self.2 ha, List.filter_eq_nil_iff.2, List.append_nil]
    exact fun k hk => by simp [hb k hk]
  · rw [objGet_append, objGet_none a, Option.or_none]
    exact fun hm => by simp [ha k hm] at hk

def isLetterChar (c : Char) : Bool := ('a' ≤ c && c ≤ 'z') || ('A' ≤ c && c ≤ 'Z')

theorem isLetterChar_iff (c : Char) :
    isLetterChar c = true ↔ (97 ≤ c.toNat ∧ c.toNat ≤ 122) ∨ (65 ≤ c.toNat ∧ c.toNat ≤ 90) := by
  simp only [isLetterChar, Bool.or_eq_true, Bool.and_eq_true, decide_eq_true_eq, Char.le_def, UInt32.le_iff_toNat_le]
  rfl

theorem utf8ByteSize_eq (k : String) : k.utf8ByteSize = (k.toList.flatMap String.utf8EncodeChar).length := by
  rw [← String.size_toByteArray, ← String.utf8Encode_toList]
  simp [List.utf8Encode]

theorem utf8Size_one (c : Char) : c.utf8Size = 1 ↔ c.toNat ≤ 127 :=
  Char.utf8Size_eq_one_iff.trans UInt32.le_iff_toNat_le

theorem enc_ascii (c : Char) (h : c.toNat ≤ 127) : String.utf8EncodeChar c = [UInt8.ofNat c.toNat] :=
  String.utf8EncodeChar_eq_singleton ((utf8Size_one c).2 h)

/-- the test of `ReqFilter.UnmarshalJSON`, on the UTF-8 bytes of the key -/
theorem isTagKey_bytes (k : String) (bs : List UInt8) (h : k.toList.flatMap String.utf8EncodeChar = bs) :
    isTagKey k = Gen.filterKeyTag bs.length (bs.getD 0 0).toNat (bs.getD 1 0).toNat := by
  simp only [isTagKey, strByte, utf8ByteSize_eq, h]

theorem isTagKey_ascii (k : String) (c0 c1 : Char) (hk : k.toList = [c0, c1]) (h0 : c0.toNat ≤ 127)
    (h1 : c1.toNat ≤ 127) : isTagKey k = true ↔ c0 = '#' ∧ isLetterChar c1 = true := by
  have hn : ∀ n ≤ 127, (UInt8.ofNat n).toNat = n := fun n h =>
    (UInt8.toNat_ofNat' ..).trans (Nat.mod_eq_of_lt (by omega))
  have h35 : c0 = '#' ↔ c0.toNat = 35 := Char.toNat_inj.symm
  rw [isTagKey_bytes k [UInt8.ofNat c0.toNat, UInt8.ofNat c1.toNat] (by simp [hk, enc_ascii, h0, h1]),
    isLetterChar_iff, h35]
  -- two bytes, the codes of `c0` and `c1`: the regenerated test on them, as a statement about numbers
  simp only [Gen.filterKeyTag, List.length_cons, List.length_nil, List.getD_cons_zero, List.getD_cons_succ, hn _ h0,
    hn _ h1, Bool.and_eq_true, Bool.or_eq_true, beq_iff_eq, decide_eq_true_eq]
  omega

theorem isTagKey_hash (c : Char) (h : isLetterChar c = true) : isTagKey ("#" ++ String.ofList [c]) = true :=
  (isTagKey_ascii _ '#' c (by simp) (by decide) (by rw [isLetterChar_iff] at h; omega)).2 ⟨rfl, h⟩

def tagKVs (l : List (String × List String)) : List (String × JT) :=
  l.map (fun c => ("#" ++ c.1, JT.arr (c.2.map .str)))

def piece {α} (key : String) (g : α → JT) : Option α → List (String × JT)
  | some v => [(key, g v)]
  | none => []

def fixedKVs (f : Filter) : List (String × JT) :=
  piece "authors" (fun l => .arr (l.map .str)) f.authors ++ piece "ids" (fun l => .arr (l.map .str)) f.ids ++
  piece "kinds" (fun l => .arr (l.map .int)) f.kinds ++ piece "limit" .int f.limit ++ piece "since" .int f.since ++
  piece "until" .int f.until_

/-- member by member; the `match`es of `encodeFilter` and of `piece` are different constants, so each is opened -/
theorem encodeFilter_eq (f : Filter) : encodeFilter f = .obj (tagKVs (f.tags.getD []) ++ fixedKVs f) := by
  simp only [encodeFilter, fixedKVs, List.append_assoc]
  congr 2
  · cases f.tags <;> rfl
  congr 1
  · cases f.authors <;> rfl
  congr 1
  · cases f.ids <;> rfl
  congr 1
  · cases f.kinds <;> rfl
  congr 1
  · cases f.limit <;> rfl
  congr 1
  · cases f.since <;> rfl
  · cases f.until_ <;> rfl

theorem objGet_piece {α} (key : String) (g : α → JT) (o : Option α) (k : String) :
    objGet (piece key g o) k = if k = key then o.map g else none := by
  cases o with
  | none => simp [piece, objGet]
  | some v =>
    by_cases h : k = key
    · simp [piece, objGet, h]
    · simp [piece, objGet, List.lookup_cons, beq_false_of_ne h, h]

/-- each fixed member is read back as written, an absent one as absent (the six names are distinct) -/
theorem objGet_fixedKVs (f : Filter) :
    objGet (fixedKVs f) "ids" = f.ids.map (fun l => .arr (l.map .str)) ∧
    objGet (fixedKVs f) "authors" = f.authors.map (fun l => .arr (l.map .str)) ∧
    objGet (fixedKVs f) "kinds" = f.kinds.map (fun l => .arr (l.map .int)) ∧
    objGet (fixedKVs f) "since" = f.since.map .int ∧ objGet (fixedKVs f) "until" = f.until_.map .int ∧
    objGet (fixedKVs f) "limit" = f.limit.map .int := by
  simp [fixedKVs, objGet_append, objGet_piece]

/-- the filters the round trip is claimed for: the tag conditions, if present, are not the empty map (it is encoded
    like an absent one) and their names are distinct (a Go map) single ASCII letters (what `ReqFilter.Valid` asks of a
    name); every integer fits an int64 (its Go type) -/
structure FilterRT (f : Filter) : Prop where
  tagsNE : f.tags ≠ some []
  names : ∀ l, f.tags = some l → (l.map Prod.fst).Nodup ∧ ∀ c ∈ l, ∃ ch, c.1 = String.ofList [ch] ∧ isLetterChar ch = true
  kinds : ∀ l, f.kinds = some l → ∀ i ∈ l, inInt64 i = true
  since : ∀ i, f.since = some i → inInt64 i = true
  until_ : ∀ i, f.until_ = some i → inInt64 i = true
  limit : ∀ i, f.limit = some i → inInt64 i = true

def fixedNames : List String := ["authors", "ids", "kinds", "limit", "since", "until"]

theorem piece_keys_sublist {α} (key : String) (g : α → JT) (o : Option α) :
    ((piece key g o).map Prod.fst).Sublist [key] := by
  cases o <;> simp [piece]

theorem fixed_keys_sublist (f : Filter) : ((fixedKVs f).map Prod.fst).Sublist fixedNames := by
  simp only [fixedKVs, List.map_append]
  exact (((((piece_keys_sublist ..).append (piece_keys_sublist ..)).append (piece_keys_sublist ..)).append
    (piece_keys_sublist ..)).append (piece_keys_sublist ..)).append (piece_keys_sublist ..)

theorem fixedNames_spec : fixedNames.Nodup ∧ ∀ k ∈ fixedNames, isTagKey k = false ∧ knownFilterKey k = true := by
  decide

theorem fixedKVs_keys (f : Filter) : ((fixedKVs f).map Prod.fst).Nodup ∧
    ∀ k ∈ (fixedKVs f).map Prod.fst, isTagKey k = false ∧ knownFilterKey k = true :=
  ⟨(fixed_keys_sublist f).nodup fixedNames_spec.1, fun k hk => fixedNames_spec.2 k ((fixed_keys_sublist f).subset hk)⟩

theorem decOptStrs_get (kvs : List (String × JT)) (k : String) (o : Option (List String))
    (h : objGet kvs k = o.map fun l => .arr (l.map .str)) : decOptStrs kvs k = .ok o := by
  cases o <;> simp [decOptStrs, h, decStrsStrict_map, Except.map]

theorem decOptInts_get (kvs : List (String × JT)) (k : String) (o : Option (List Int))
    (h : objGet kvs k = o.map fun l => .arr (l.map .int)) (hr : ∀ l, o = some l → ∀ i ∈ l, inInt64 i = true) :
    decOptInts kvs k = .ok o := by
  cases o with
  | none => simp [decOptInts, h]
  | some l => simp [decOptInts, h, decInts_map l (hr l rfl), Except.map]

theorem decOptInt_get (kvs : List (String × JT)) (k : String) (o : Option Int)
    (h : objGet kvs k = o.map .int) (hr : ∀ i, o = some i → inInt64 i = true) : decOptInt kvs k = .ok o := by
  cases o with
  | none => simp [decOptInt, h]
  | some i => simp [decOptInt, h, decInt64_int i (hr i rfl), Except.map]

theorem decTagConds_tags (kvs : List (String × JT)) (l : List (String × List String))
    (hget : ∀ kv ∈ tagKVs l, objGet kvs kv.1 = some kv.2) :
    decTagConds kvs ((tagKVs l).map Prod.fst) = .ok l := by
  induction l with
  | nil => rfl
  | cons c cs ih =>
    have hn : String.ofList (("#" ++ c.1).toList.drop 1) = c.1 := by simp
    simp only [tagKVs, List.map_cons, List.forall_mem_cons] at hget ih ⊢
    simp only [decTagConds, hget.1, decStrsStrict_map, hn, ih hget.2]
    rfl

theorem FilterRT.tagKeys {f : Filter} (hf : FilterRT f) :
    ((tagKVs (f.tags.getD [])).map Prod.fst).Nodup ∧ ∀ k ∈ (tagKVs (f.tags.getD [])).map Prod.fst, isTagKey k = true := by
  have htk : ∀ l, (tagKVs l).map Prod.fst = l.map (fun c => "#" ++ c.1) := fun l => by simp [tagKVs]
  cases ht : f.tags with
  | none => simp [tagKVs]
  | some l =>
    obtain ⟨hnd, hl⟩ := hf.names l ht
    rw [Option.getD_some, htk]
    refine ⟨List.pairwise_map.2 ((List.pairwise_map.1 hnd).imp fun hne h => hne ((String.append_right_inj "#").1 h)),
      List.forall_mem_map.2 fun c hc => ?_⟩
    obtain ⟨ch, hch, hlet⟩ := hl c hc
    rw [hch]; exact isTagKey_hash ch hlet

theorem filter_roundtrip (f : Filter) (hf : FilterRT f) : decodeFilter (encodeFilter f) = .ok f := by
  rw [encodeFilter_eq]
  obtain ⟨hnd, htag⟩ := hf.tagKeys
  generalize hts : f.tags.getD [] = ts at hnd htag
  obtain ⟨hndf, hfix⟩ := fixedKVs_keys f
  obtain ⟨hkeys, hfilt, hgtag, hget⟩ :=
    obj_two_parts isTagKey (tagKVs ts) (fixedKVs f) htag (fun k hk => (hfix k hk).1) hnd hndf
  have hknown : (objKeys (tagKVs ts ++ fixedKVs f)).all knownFilterKey = true := by
    rw [hkeys, List.all_append, Bool.and_eq_true, List.all_eq_true, List.all_eq_true]
    exact ⟨fun k hk => by simp [knownFilterKey, htag k hk], fun k hk => (hfix k hk).2⟩
  obtain ⟨hids, hauthors, hkinds, hsince, huntil, hlimit⟩ := objGet_fixedKVs f
  simp only [decodeFilter, hknown, Bool.not_true, Bool.false_eq_true, if_false, hfilt]
  -- a fixed name is no tag key (`by decide`), so it is looked up among the fixed members
  rw [decTagConds_tags _ _ hgtag,
    decOptStrs_get _ "ids" f.ids ((hget _ (by decide)).trans hids),
    decOptStrs_get _ "authors" f.authors ((hget _ (by decide)).trans hauthors),
    decOptInts_get _ "kinds" f.kinds ((hget _ (by decide)).trans hkinds) hf.kinds,
    decOptInt_get _ "since" f.since ((hget _ (by decide)).trans hsince) hf.since,
    decOptInt_get _ "until" f.until_ ((hget _ (by decide)).trans huntil) hf.until_,
    decOptInt_get _ "limit" f.limit ((hget _ (by decide)).trans hlimit) hf.limit]
  -- the tags member: absent iff there was none
  subst hts
  obtain ⟨ids, authors, kinds, _ | _ | ⟨c, cs⟩, since, until_, limit⟩ := f
  · rfl
  · exact absurd rfl hf.tagsNE
  · rfl

theorem decFilters_map (fs : List Filter) (h : ∀ f ∈ fs, FilterRT f) : decFilters (fs.map encodeFilter) = .ok fs := by
  induction fs with
  | nil => rfl
  | cons f fs ih =>
    simp only [List.map_cons, decFilters, filter_roundtrip f (h f (by simp)),
      ih (fun g hg => h g (List.mem_cons_of_mem _ hg))]
    rfl

/-- `hne`: a REQ or COUNT without a filter fails the decoder's arity test -/
theorem req_count_roundtrip (sub : String) (fs : List Filter) (hne : fs ≠ []) (h : ∀ f ∈ fs, FilterRT f) :
    decodeClientReq (encodeClientMsg (.req sub fs)) = .ok (.req sub fs) ∧
    decodeClientCount (encodeClientMsg (.count sub fs)) = .ok (.count sub fs) := by
  have hd := decFilters_map fs h
  obtain ⟨f, fs', rfl⟩ := List.exists_cons_of_ne_nil hne
  exact ⟨(decodeClientReq_arr sub _ _).trans (by rw [← List.map_cons, hd]; rfl),
    (decodeClientCount_arr sub _ _).trans (by rw [← List.map_cons, hd]; rfl)⟩

end Moc.C10
