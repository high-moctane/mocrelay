/-
  The concrete cache model (MocModel/CacheC.lean), for C04Refine: the index as a finite map of sets, read only
  through `ixGet`; what `CCache.delete` does (`cdelete_cases`); the tree as a sorted list, whose last entry is the
  abstract model's `getOldestEvent` (`getLast_eq_oldestOf`).  Before these, four facts about lists and `if` that core
  lacks and only this region uses; `ite_rel` (two `if`s on one test are related when their branches are) is the step by
  which C04Refine follows the control flow of an operation and its abstract twin.
-/
import MocProps.CacheLemmas
import MocModel.CacheC
import MocProps.ListMap
import MocProps.CacheOrder

namespace Moc.CacheCL
open Moc.CacheL Moc.C03

theorem nodup_insert {α} [BEq α] [LawfulBEq α] (a : α) {l : List α} (h : l.Nodup) : (l.insert a).Nodup := by
  rw [List.insert_eq]
  split
  · exact h
  · exact List.nodup_cons.2 ⟨‹_›, h⟩

theorem exists_mem_map {α β} {f : α → β} {l : List α} {p : β → Prop} : (∃ b ∈ l.map f, p b) ↔ ∃ a ∈ l, p (f a) :=
  ⟨fun ⟨_, hb, hp⟩ => let ⟨a, ha, e⟩ := List.mem_map.1 hb; ⟨a, ha, e ▸ hp⟩,
   fun ⟨a, ha, hp⟩ => ⟨f a, List.mem_map_of_mem ha, hp⟩⟩

theorem eq_of_subsingleton {α} {l1 l2 : List α} (h1 : l1.Nodup) (h2 : l2.Nodup) (hm : ∀ x, x ∈ l1 ↔ x ∈ l2)
    (hs : ∀ a ∈ l1, ∀ b ∈ l1, a = b) : l1 = l2 :=
  -- `Nodup` is `Pairwise (· ≠ ·)`, and `≠` is antisymmetric on lists whose members are all equal
  List.Perm.eq_of_pairwise (le := (· ≠ ·)) (fun a b ha hb hab _ => absurd (hs a ha b ((hm b).2 hb)) hab) h1 h2
    ((List.perm_ext_iff_of_nodup h1 h2).2 hm)

theorem ite_rel {α β} (R : α → β → Prop) {b : Prop} [Decidable b] {x x' : α} {y y' : β} (h1 : b → R x y)
    (h2 : ¬b → R x' y') : R (if b then x else x') (if b then y else y') := by
  by_cases h : b
  · rw [if_pos h, if_pos h]; exact h1 h
  · rw [if_neg h, if_neg h]; exact h2 h

theorem ixGet_ixErase (idx : Idx) (k k' : IdxKey) :
    ixGet (ixErase idx k) k' = if k' = k then [] else ixGet idx k' :=
  getD_lookup_erase idx k k' []

theorem ixGet_ixSet (idx : Idx) (k k' : IdxKey) (s : List Event) :
    ixGet (ixSet idx k s) k' = if k' = k then s else ixGet idx k' :=
  getD_lookup_set idx k k' s []

/-- the model's `if s.contains e then s else e :: s` is `List.insert` -/
theorem ixGet_ixAdd1 (idx : Idx) (e : Event) (k k' : IdxKey) :
    ixGet (ixAdd1 idx e k) k' = if k' = k then (ixGet idx k).insert e else ixGet idx k' :=
  ixGet_ixSet idx k k' _

/-- that a missing key is skipped and an emptied set removed does not show in what `ixGet` reads -/
theorem ixGet_ixDel1 (idx : Idx) (e : Event) (k k' : IdxKey) :
    ixGet (ixDel1 idx e k) k' = if k' = k then (ixGet idx k).filter (· != e) else ixGet idx k' :=
  getD_lookup_updateSet (g := (·.filter (· != e))) rfl
    (updateSet_cases (fun h => by rw [ixDel1, h]) fun s h => by rw [ixDel1, h]; rfl) k'

/-- `hf` (idempotent): a key may occur twice in `ks`, since an event may carry the same tag twice -/
theorem foldl_ixGet {f : List Event → List Event} (hf : ∀ s, f (f s) = f s) (step : Idx → IdxKey → Idx)
    (hstep : ∀ i k k', ixGet (step i k) k' = if k' = k then f (ixGet i k) else ixGet i k')
    (ks : List IdxKey) (idx : Idx) (k' : IdxKey) :
    ixGet (ks.foldl step idx) k' = if k' ∈ ks then f (ixGet idx k') else ixGet idx k' := by
  induction ks generalizing idx with
  | nil => rfl
  | cons k ks ih =>
    rw [List.foldl_cons, ih, hstep]
    by_cases h : k' = k
    · rw [if_pos h, ← h, hf, ite_self, if_pos List.mem_cons_self]
    · simp only [List.mem_cons, h, false_or, if_false]

theorem ixGet_ixAdd (idx : Idx) (e : Event) (k : IdxKey) :
    ixGet (ixAdd idx e) k = if k ∈ idxKeys e then (ixGet idx k).insert e else ixGet idx k :=
  foldl_ixGet (f := (·.insert e)) (fun _ => List.insert_of_mem List.mem_insert_self) _ (fun i => ixGet_ixAdd1 i e) _ idx k

theorem ixGet_ixDelete (idx : Idx) (e : Event) (k : IdxKey) :
    ixGet (ixDelete idx e) k = if k ∈ idxKeys e then (ixGet idx k).filter (· != e) else ixGet idx k :=
  foldl_ixGet (f := (·.filter (· != e))) (fun _ => by simp only [List.filter_filter, Bool.and_self]) _
    (fun i => ixGet_ixDel1 i e) _ idx k

theorem nodup_ixAdd (idx : Idx) (e : Event) (k' : IdxKey) (h : (ixGet idx k').Nodup) :
    (ixGet (ixAdd idx e) k').Nodup := by
  rw [ixGet_ixAdd]
  split
  · exact nodup_insert e h
  · exact h

theorem nodup_ixDelete (idx : Idx) (e : Event) (k' : IdxKey) (h : (ixGet idx k').Nodup) :
    (ixGet (ixDelete idx e) k').Nodup := by
  rw [ixGet_ixDelete]
  split
  · exact h.filter _
  · exact h

theorem cdelete_cases (c : CCache) (k p : String) :
    c.delete k p = c ∧ c.a.delete k p = c.a ∨
    ∃ cand, c.a.lookup k = some cand ∧ cand.pubkey = p ∧
      c.delete k p = { a := c.a.delete k p, tree := tDel cand c.tree, idx := ixDelete c.idx cand } := by
  unfold CCache.delete
  rcases delete_cases c.a k p with ⟨h0, hne⟩ | ⟨cand, hl, hp, _⟩
  · refine Or.inl ⟨?_, h0⟩
    cases hl : c.a.lookup k with
    | none => rfl
    | some cand => exact if_pos (bne_iff_ne.2 (hne cand hl))
  · rw [hl]
    exact Or.inr ⟨cand, rfl, hp, if_neg (by simp [Gen.deleteForeign, hp])⟩

theorem sameKey_iff {U : List Event} (hU : IdInj U) {x y : Event} (hx : x ∈ U) (hy : y ∈ U) :
    sameKey x y = true ↔ x = y := by
  rw [sameKey, Bool.and_eq_true, Bool.not_eq_true', Bool.not_eq_true']
  exact ⟨fun h => hU x hx y hy (before_total h.1 h.2).2, fun h => h ▸ ⟨before_irrefl x, before_irrefl x⟩⟩

theorem mem_tDel {U : List Event} (hU : IdInj U) {cand : Event} {tree : List Event} (hc : cand ∈ U)
    (ht : ∀ x ∈ tree, x ∈ U) {x : Event} : x ∈ tDel cand tree ↔ x ∈ tree ∧ x ≠ cand := by
  rw [tDel, List.mem_filter, Bool.not_eq_true', ← Bool.not_eq_true]
  exact and_congr_right fun hx => not_congr (sameKey_iff hU (ht x hx) hc)

theorem getLast_max (l : List Event) (h : Sorted l) (m : Event) (hm : l.getLast? = some m) :
    ∀ x ∈ l, before m x = false := by
  obtain ⟨ys, rfl⟩ := List.getLast?_eq_some_iff.1 hm
  intro x hx
  rcases List.mem_append.1 hx with hx | hx
  · exact before_asymm ((List.pairwise_append.1 h).2.2 x hx m (List.mem_singleton_self m))
  · rw [List.mem_singleton.1 hx]
    exact before_irrefl _

/-- the eviction victim read from the tree (`CCache.evict`) is the one `Cache.add` computes from the map: both come
    after every other retained event, and over `U` the order is total -/
theorem getLast_eq_oldestOf (U : List Event) (hU : IdInj U) (evs tree : List Event) (hin : ∀ x ∈ evs, x ∈ U)
    (hs : Sorted tree) (hm : ∀ x, x ∈ tree ↔ x ∈ evs) : tree.getLast? = oldestOf evs := by
  cases ho : oldestOf evs with
  | none =>
    cases oldestOf_none evs ho
    cases tree with
    | nil => rfl
    | cons t ts => exact absurd ((hm t).1 List.mem_cons_self) List.not_mem_nil
  | some o =>
    have hoe := oldestOf_mem evs o ho
    cases hl : tree.getLast? with
    | none =>
      rw [List.getLast?_eq_none_iff.1 hl] at hm
      exact absurd ((hm o).2 hoe) List.not_mem_nil
    | some m =>
      have hme := (hm m).1 (List.mem_of_getLast? hl)
      rw [hU m (hin m hme) o (hin o hoe)
        (before_total (getLast_max tree hs m hl o ((hm o).2 hoe)) (oldestOf_max evs o ho m hme)).2]

end Moc.CacheCL
