/-
  C06, deletions: after any history the tombstone tables hold exactly the tombstone rows built for the inserted
  events, whatever the arrival order (`tombstones_after_history`, hence `hidden_iff_request`).  Only the (id, author)
  rows are traced back to tags (`delIdRows_mem`: the `e` tags of a deletion request); what `delKeyRows` makes of
  `a` tags is not characterised, and no theorem relates the tables to the statement's own `SqliteSpec.deletes` /
  `live`, by which the harness judges answers at run time.
-/
import MocModel.Sqlite
import MocProps.SqliteLemmas
import MocProps.C06Tables
import MocProps.C06
namespace Moc.C06
open Moc.C14

/-- the assumption that ids determine events, on the parameters built from them -/
def IdInjP (ps : List Params) : Prop := ∀ p ∈ ps, ∀ q ∈ ps, p.row.id = q.row.id → p = q

/-- what the two tombstone tables have in common (`setTable_delIds`, `setTable_delKeys`) -/
def SetTable {α} [BEq α] (tbl : Db → List α) (rows : Params → List α) : Prop :=
  ∀ db p, ¬ Settled db p → tbl (db.insertOne p) = (rows p).foldl insertSet (tbl db)

theorem insertOne_tombs {db : Db} {p : Params} (hs : ¬ Settled db p) :
    (db.insertOne p).delIds = p.delIds.foldl insertSet db.delIds ∧
    (db.insertOne p).delKeys = p.delKeys.foldl insertSet db.delKeys := by
  rcases insertOne_cases db p with ⟨h, _⟩ | ⟨_, e⟩ | ⟨_, _, _, e⟩
  · exact absurd h hs
  · rw [e]; exact ⟨rfl, rfl⟩
  · rw [e]; exact ⟨rfl, rfl⟩

theorem setTable_delIds : SetTable Db.delIds Params.delIds := fun _ _ hs => (insertOne_tombs hs).1

theorem setTable_delKeys : SetTable Db.delKeys Params.delKeys := fun _ _ hs => (insertOne_tombs hs).2

section
variable {α} [BEq α] [LawfulBEq α] {tbl : Db → List α} {rows : Params → List α}

theorem SetTable.mem_insertOne (h : SetTable tbl rows) (db : Db) (p : Params) (x : α) :
    x ∈ tbl (db.insertOne p) ↔ x ∈ tbl db ∨ (¬ Settled db p ∧ x ∈ rows p) := by
  by_cases hs : Settled db p
  · simp [settled_noop db p hs, hs]
  · simp [h db p hs, mem_foldl_insertSet, hs]

/-- every inserted event's rows are in the table, whether or not its statements ran: an event with rows shares its
    key with no other (`hown`), so when its statements did not run the row found under its key is its own, written
    when it was inserted before -/
theorem SetTable.complete (h : SetTable tbl rows) (all : List Params)
    (hown : ∀ p ∈ all, rows p ≠ [] → ∀ q ∈ all, q.row.key = p.row.key → q = p) :
    ∀ p ∈ all, ∀ x ∈ rows p, x ∈ tbl (all.foldl Db.insertOne {}) := by
  refine foldl_prefix_induction Db.insertOne {} (fun done d => ∀ p ∈ done, ∀ x ∈ rows p, x ∈ tbl d) all (by simp) ?_
  rintro done q rest rfl ih p hp x hx
  rw [h.mem_insertOne]
  rcases List.mem_append.1 hp with hp | hp
  · exact .inl (ih p hp x hx)
  · obtain rfl : p = q := by simpa using hp
    by_cases hs : Settled (done.foldl Db.insertOne {}) p
    · obtain ⟨old, hf, _⟩ := hs
      rcases fold_events_source _ _ old (List.mem_of_find?_eq_some hf) with h0 | ⟨p0, hp0, rfl⟩
      · cases h0
      · obtain rfl : p0 = p := hown p (by simp) (List.ne_nil_of_mem hx) p0 (by simp [hp0])
          (by simpa using List.find?_some hf)
        exact .inl (ih p0 hp0 x hx)
    · exact .inr ⟨hs, hx⟩

theorem SetTable.after_history (h : SetTable tbl rows) (h0 : tbl {} = []) (all : List Params)
    (hown : ∀ p ∈ all, rows p ≠ [] → ∀ q ∈ all, q.row.key = p.row.key → q = p) (x : α) :
    x ∈ tbl (all.foldl Db.insertOne {}) ↔ ∃ p ∈ all, x ∈ rows p := by
  constructor
  · intro hx
    rcases fold_source tbl (fun q x => x ∈ rows q) (fun db q x hx => ((h.mem_insertOne db q x).1 hx).imp_right And.right)
      all {} x hx with hx | hx
    · rw [h0] at hx; cases hx
    · exact hx
  · rintro ⟨p, hp, hx⟩
    exact h.complete all hown p hp x hx
end

/-- only a regular event is stored under a (timestamp, id) key, and the id is its own -/
theorem sqlKey_reg_iff (e : Event) (ts : Nat) (id : String) :
    sqlKey e = some (.reg ts id) ↔
      eventType e.kind = .regular ∧ (e.createdAt % 4294967296).toNat = ts ∧ e.id = id := by
  unfold sqlKey
  cases eventType e.kind with
  | regular => simp only [Option.some.injEq, SKey.reg.injEq, true_and]
  | replaceable => simp only [Option.some.injEq, reduceCtorEq, false_and]
  | ephemeral => simp only [reduceCtorEq, false_and]
  | addressable => cases e.tags.find? _ <;> simp only [Option.some.injEq, reduceCtorEq, false_and]

theorem delIdRows_of_ne5 {e : Event} (h : e.kind ≠ 5) (pk : String) : delIdRows e pk = [] := by
  rw [delIdRows, Gen.sqlDelIdsNotK5, if_pos (bne_iff_ne.2 h)]

theorem delKeyRows_of_ne5 {e : Event} (h : e.kind ≠ 5) (pk : String) : delKeyRows e pk = [] := by
  rw [delKeyRows, Gen.sqlDelKeysNotK5, if_pos (bne_iff_ne.2 h)]

/-- what the builders guarantee: a (timestamp, id) key carries the row's id; only deletion requests carry tombstones,
    and they are regular events, stored under such a key -/
structure KeyOK (p : Params) : Prop where
  regId : ∀ ts id, p.row.key = .reg ts id → p.row.id = id
  tombReg : (p.delIds = [] ∧ p.delKeys = []) ∨ ∃ ts, p.row.key = .reg ts p.row.id

theorem buildParams_keyOK (e : Event) (p : Params) (h : buildParams e = some p) (hl : LowerHex e) : KeyOK p := by
  obtain ⟨k, hk, rfl⟩ := buildParams_lower h hl
  constructor
  · rintro ts id rfl
    exact ((sqlKey_reg_iff e ts id).1 hk).2.2
  · by_cases h5 : e.kind = 5
    · -- a deletion request (kind 5) is a regular event
      have hreg := (sqlKey_reg_iff e _ e.id).2 ⟨by rw [h5]; decide, rfl, rfl⟩
      exact .inr ⟨_, Option.some.inj (hk.symm.trans hreg)⟩
    · exact .inl ⟨delIdRows_of_ne5 h5 _, delKeyRows_of_ne5 h5 _⟩

theorem tombstones_after_history (batches : List (List Event)) (hlow : ∀ e ∈ batches.flatten, LowerHex e)
    (hinj : IdInjP (paramsOf batches.flatten)) :
    (∀ x, x ∈ (batches.foldl Db.insertBatch {}).delIds ↔ ∃ p ∈ paramsOf batches.flatten, x ∈ p.delIds) ∧
    (∀ x, x ∈ (batches.foldl Db.insertBatch {}).delKeys ↔ ∃ p ∈ paramsOf batches.flatten, x ∈ p.delKeys) := by
  rw [batches_eq_one]
  have hkey : ∀ p ∈ paramsOf batches.flatten, KeyOK p := by
    intro p hp
    obtain ⟨e, he, hb⟩ := List.mem_filterMap.1 hp
    exact buildParams_keyOK e p hb (hlow e he)
  -- an event with tombstones is stored under (timestamp, id), a key that only an event with its id can have
  have hown : ∀ p ∈ paramsOf batches.flatten, ¬ (p.delIds = [] ∧ p.delKeys = []) →
      ∀ q ∈ paramsOf batches.flatten, q.row.key = p.row.key → q = p := by
    intro p hp hne q hq hk
    obtain ⟨ts, hts⟩ := (hkey p hp).tombReg.resolve_left hne
    exact hinj q hq p hp ((hkey q hq).regId ts _ (hk.trans hts))
  exact ⟨setTable_delIds.after_history rfl _ fun p hp hne => hown p hp fun h => hne h.1,
    setTable_delKeys.after_history rfl _ fun p hp hne => hown p hp fun h => hne h.2⟩

theorem delIdRows_mem (d : Event) (pk : String) (x : String × String) :
    x ∈ delIdRows d pk ↔ d.kind = 5 ∧ x.2 = pk ∧
      ∃ t ∈ d.tags, 2 ≤ t.length ∧ t.headD "" = "e" ∧ hexNorm (t.getD 1 "") = some x.1 := by
  by_cases h5 : d.kind = 5
  · -- a tag yields a row when it gets past both `continue` tests; unfolded, the two sides differ only in that each
    -- test stands negated on the left: `¬ len < 2` for `2 ≤ len` (`Int.not_lt`), `¬ name ≠ "e"` for `name = "e"`
    simp only [delIdRows, Gen.sqlDelIdsNotK5, h5, bne_self_eq_false, Bool.false_eq_true, if_false, true_and,
      List.mem_filterMap, Option.ite_none_left_eq_some, Option.map_eq_some_iff, Gen.sqlDelIdsArity, Gen.sqlDelIdsName,
      decide_eq_true_eq, bne_iff_ne, ne_eq, Classical.not_not, Int.not_lt]
    constructor
    · rintro ⟨t, ht, hl, hn, id, hid, rfl⟩
      exact ⟨rfl, t, ht, Int.ofNat_le.1 hl, hn, hid⟩
    · rintro ⟨rfl, t, ht, hl, hn, hx⟩
      exact ⟨t, ht, Int.ofNat_le.2 hl, hn, _, hx, rfl⟩
  · rw [delIdRows_of_ne5 h5]
    exact ⟨fun h => (List.not_mem_nil h).elim, fun h => absurd h.1 h5⟩

/-- "Whichever of the two arrived first": the right side does not depend on the order of the history. -/
theorem hidden_iff_request (batches : List (List Event)) (hlow : ∀ e ∈ batches.flatten, LowerHex e)
    (hinj : IdInjP (paramsOf batches.flatten)) (r : ERow) :
    (batches.foldl Db.insertBatch {}).hidden r = true ↔
      ∃ p ∈ paramsOf batches.flatten, (r.key, r.pubkey) ∈ p.delKeys ∨ (r.id, r.pubkey) ∈ p.delIds := by
  obtain ⟨t1, t2⟩ := tombstones_after_history batches hlow hinj
  rw [hidden_iff, t1, t2]
  simp only [← exists_or, ← and_or_left]

end Moc.C06
