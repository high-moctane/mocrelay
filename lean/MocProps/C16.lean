/-
  C16 — Storage handlers reply completely and in order; dump/restore is lossless.

  Model: MocModel/Handlers.lean (`cacheReply`, `serveCache`, `dump`, `restore`).
  Proved here: the request/reply loop answers message by message in request order, every reply list has
  the shape the statement demands, the OK verdict is the store's "reported as new" flag.
  That Dump/Restore is lossless is proved in C16Restore.lean; the SQLite handler's insert worker is C16Worker.lean.
  Only validated at run time: the SQLite handler's replies (judged by the same `replyShapeOk`), the JSON encoding of
  the dump, and `SimpleHandler`'s channel plumbing (the model serves one message after the other).
-/
import MocModel.Spec.Handlers
import MocProps.C04

namespace Moc.C16

/-- the reply constructors of handler.go / handler/sqlite/handler.go are the ones the model translates -/
theorem handlers_source_pinned : handlersActualSource = handlersExpectedSource := by rfl

theorem serveCache_cons_ok {c c'' : Cache} {m : ClientMsg} {ms : List ClientMsg} {rs : List (List ServerMsg)}
    (h : serveCache c (m :: ms) = (c'', .ok rs)) :
    ∃ c' r rs', cacheReply c m = (c', .ok r) ∧ serveCache c' ms = (c'', .ok rs') ∧ rs = r :: rs' := by
  unfold serveCache at h
  rcases hm : cacheReply c m with ⟨c', r | _⟩
  · rcases hs : serveCache c' ms with ⟨c2, rs' | _⟩
    · simp only [hm, hs] at h
      cases h
      exact ⟨_, _, _, rfl, hs, rfl⟩
    · simp [hm, hs] at h
  · simp [hm] at h

theorem serve_append (c : Cache) (ms1 ms2 : List ClientMsg) (r1 : List (List ServerMsg)) (c1 : Cache)
    (h1 : serveCache c ms1 = (c1, .ok r1)) :
    serveCache c (ms1 ++ ms2) =
      match serveCache c1 ms2 with
      | (c2, .ok r2) => (c2, .ok (r1 ++ r2))
      | (c2, .panic) => (c2, .panic) := by
  induction ms1 generalizing c r1 with
  | nil =>
    cases h1
    rw [List.nil_append]
    rcases serveCache c1 ms2 with ⟨c2, _ | _⟩ <;> rfl
  | cons m ms ih =>
    obtain ⟨c', r, rs', hm, hs, rfl⟩ := serveCache_cons_ok h1
    simp only [List.cons_append, serveCache, hm, ih c' rs' hs]
    rcases serveCache c1 ms2 with ⟨c2, _ | _⟩ <;> rfl

theorem serve_length (ms : List ClientMsg) : ∀ (c c' : Cache) (rs : List (List ServerMsg)),
    serveCache c ms = (c', .ok rs) → rs.length = ms.length := by
  induction ms with
  | nil => intro c c' rs h; cases h; rfl
  | cons m ms ih =>
    intro c c' rs h
    obtain ⟨c1, r, rs', _, hs, rfl⟩ := serveCache_cons_ok h
    rw [List.length_cons, List.length_cons, ih _ _ rs' hs]

theorem cacheReply_event (c : Cache) (e : Event) :
    cacheReply c (.event e) = ((c.add e).1, .ok [if (c.add e).2 then .ok e.id true "" ""
      else .ok e.id false Gen.cacheRejectPrefix Gen.cacheRejectMsg]) := by
  unfold cacheReply Gen.cacheAcceptIf
  dsimp only
  rcases c.add e with ⟨c', _ | _⟩ <;> rfl

theorem cacheReply_req (c : Cache) (sub : String) (fs : List Filter) :
    cacheReply c (.req sub fs) = (c, match c.find id fs with
      | .panic => .panic
      | .ok evs => .ok (evs.map (fun e => ServerMsg.event sub e) ++ [.eose sub])) := by
  unfold cacheReply
  dsimp only
  cases c.find id fs <;> rfl

/-- Every rejection carries the `duplicate:` prefix, also that of an older version or of an event suppressed by a
    deletion request: handler.go has one rejection message.  The statement of C16 asks for the prefix only when that
    very event is stored. -/
theorem event_reply (c : Cache) (e : Event) :
    (cacheReply c (.event e)).1 = (c.add e).1 ∧
    (((c.add e).2 = true ∧ (cacheReply c (.event e)).2 = .ok [.ok e.id true "" ""]) ∨
     ((c.add e).2 = false ∧ ∃ txt, (cacheReply c (.event e)).2 = .ok [.ok e.id false "duplicate: " txt])) := by
  rw [cacheReply_event]
  cases (c.add e).2 with
  | true => exact ⟨rfl, Or.inl ⟨rfl, rfl⟩⟩
  | false => exact ⟨rfl, Or.inr ⟨rfl, Gen.cacheRejectMsg, rfl⟩⟩

theorem other_replies (c : Cache) :
    (∀ sub fs evs, c.find id fs = .ok evs →
      cacheReply c (.req sub fs) = (c, .ok (evs.map (fun e => ServerMsg.event sub e) ++ [.eose sub]))) ∧
    (∀ sub fs, cacheReply c (.count sub fs) = (c, .ok [.count sub 0 none])) ∧
    (∀ sub, cacheReply c (.close sub) = (c, .ok [])) ∧
    (∀ e, cacheReply c (.auth e) = (c, .ok [])) :=
  ⟨fun sub fs evs h => by rw [cacheReply_req, h], fun _ _ => rfl, fun _ => rfl, fun _ => rfl⟩

/-- `replyShapeOk` is the monitor run on the replies of the real handlers, cache and SQLite. -/
theorem reply_shape (c : Cache) (m : ClientMsg) (r : List ServerMsg) (h : (cacheReply c m).2 = .ok r) :
    HandlerSpec.replyShapeOk m r none = none := by
  cases m with
  | event e =>
    rw [cacheReply_event] at h
    cases h
    -- one OK, and it carries the id of `e`
    cases (c.add e).2 <;> exact if_neg (by rw [bne_self_eq_false]; exact Bool.false_ne_true)
  | req sub fs =>
    rw [cacheReply_req] at h
    cases hf : c.find id fs with
    | panic => rw [hf] at h; cases h
    | ok evs =>
      rw [hf] at h
      cases h
      -- read backwards the replies are the EOSE, then events labelled `sub`
      simp only [HandlerSpec.replyShapeOk, List.reverse_append, List.reverse_singleton, List.singleton_append,
        bne_self_eq_false, Bool.false_eq_true, if_false]
      exact if_pos (List.all_eq_true.2 fun r hr => by
        obtain ⟨e, _, rfl⟩ := List.mem_map.1 (List.mem_reverse.1 hr)
        exact beq_self_eq_true sub)
  | close sub => cases h; rfl
  | auth e => cases h; rfl
  | count sub fs => cases h; exact if_pos (beq_self_eq_true sub)

/-- `Restore` is an insertion history like any other, so what C04 and C05 prove of `C04.run` holds of it -/
theorem restore_eq_run (c : Cache) (evs : List Event) : restore c evs = C04.run c evs := rfl

theorem restore_inv (cap : Int) (hcap : 0 ≤ cap) (evs : List Event) :
    C04.Inv1 (restore { cap := cap } evs) :=
  restore_eq_run _ evs ▸ (C04.retention_all_histories cap hcap evs).1

end Moc.C16
