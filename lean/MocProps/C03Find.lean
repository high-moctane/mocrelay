/-
  C03, the full theorem: each query equals the filter spec over the retained set (`find_eq_spec`), for every store
  with injective ids and no empty tag (`StoreOK`), every list of well-formed filters and every iteration order of Go's
  maps (the argument `perm`, any permutation: `find_perm_irrelevant`).  Over the order theory of CacheOrder.lean: the
  top-k loop of the index path ends with the first `limit` of what passes since/until, whatever the arrival order
  (`topkLoop_eq`, via `take_insertOrd_take`); the scan path is `scanLoop_eq` of C03.lean; both paths give `topOf`, and
  `Find` is `sortOrd` of the `topOf`s (`find_eq`).  Tree and index are derived views of `evs` here; that the store
  which maintains them answers the same is `C04R.find_refines`.
-/
import MocModel.Cache
import MocProps.C02
import MocProps.C03
import MocProps.C04
import MocProps.CacheOrder

namespace Moc.C03

/-- the since/until test of the top-k loop -/
def suOk (f : Filter) (e : Event) : Bool := sinceOkB f.since e.createdAt && untilOkB f.until_ e.createdAt

/-- why the top-k loop tests since/until only: the index candidates are the events that pass the other conditions -/
theorem nip01MatchB_eq (f : Filter) (e : Event) (hnames : ∀ l, f.tags = some l → ∀ c ∈ l, c.1.utf8ByteSize = 1) :
    nip01MatchB f e = (idxCandidate f e && suOk f e) := by
  rw [idxCandidate_eq f e hnames, nip01MatchB, suOk, Bool.and_assoc (_ && _)]

theorem topkLoop_cons (f : Filter) (limit : Int) (e : Event) (es acc : List Event) (cnt : Int)
    (hne : C02.TagsNonEmpty e) :
    topkLoop f limit (e :: es) acc cnt =
      if suOk f e then
        if cnt + 1 > limit then topkLoop f limit es (insertOrd e acc).dropLast cnt
        else topkLoop f limit es (insertOrd e acc) (cnt + 1)
      else topkLoop f limit es acc cnt := by
  have hsu : matchOne { since := f.since, until_ := f.until_ } e = .ok (suOk f e) := by
    rw [C02.matchOne_eq_spec _ e (by intro l h; cases h) hne, nip01MatchB_eq _ e (by intro l h; cases h)]
    rfl
  rw [topkLoop, hsu]
  cases suOk f e <;> simp [Gen.topkOverLimit]

/-- The loop's invariant: the counter is the length of the tree, and the tree is the first `k` of what was inserted
    (`k` is the bound as a natural number: `hk`).  Of the candidates only this is needed: their ids are new, so that
    every insertion makes the tree one longer. -/
theorem topkLoop_take (f : Filter) (limit : Int) (k : Nat) (hk : ∀ n : Nat, (n : Int) + 1 > limit ↔ n + 1 > k)
    (cs : List Event) :
    ∀ (acc : List Event), (∀ x ∈ cs, C02.TagsNonEmpty x) → cs.Pairwise (fun x y => x.id ≠ y.id) →
      (∀ x ∈ cs, ∀ y ∈ acc, y.id ≠ x.id) → acc.length ≤ k →
      topkLoop f limit cs acc acc.length = .ok ((insAll (cs.filter (suOk f)) acc).take k) := by
  induction cs with
  | nil =>
    intro acc _ _ _ hle
    rw [topkLoop, List.filter_nil, insAll, List.foldl_nil, List.take_of_length_le hle]
  | cons e es ih =>
    intro acc hne hnd hnew hle
    obtain ⟨hnd1, hnd2⟩ := List.pairwise_cons.1 hnd
    have hnes : ∀ x ∈ es, C02.TagsNonEmpty x := fun x hx => hne x (List.mem_cons_of_mem _ hx)
    rw [topkLoop_cons f limit e es acc _ (hne e List.mem_cons_self), List.filter_cons]
    by_cases hm : suOk f e = true
    · rw [if_pos hm, if_pos hm, insAll, List.foldl_cons]
      have hlen := length_insertOrd_new e acc (hnew e List.mem_cons_self)
      have hnew' : ∀ x ∈ es, ∀ y ∈ insertOrd e acc, y.id ≠ x.id := fun x hx y hy =>
        (eq_or_mem_of_mem_insertOrd hy).elim (fun h => h ▸ hnd1 x hx) (hnew x (List.mem_cons_of_mem _ hx) y)
      by_cases hov : acc.length + 1 > k
      · -- over the limit: the last (oldest) element is dropped, which is `take k`
        have hk' : acc.length = k := Nat.le_antisymm hle (Nat.le_of_lt_succ hov)
        have hdl : (insertOrd e acc).dropLast = (insertOrd e acc).take k := by
          rw [List.dropLast_eq_take, hlen, Nat.add_sub_cancel, hk']
        have hl' : acc.length = ((insertOrd e acc).take k).length := by
          rw [List.length_take, hlen, hk', Nat.min_eq_left (Nat.le_succ k)]
        rw [if_pos ((hk _).2 hov), hdl, hl', ih _ hnes hnd2
          (fun x hx y hy => hnew' x hx y (List.mem_of_mem_take hy)) (List.length_take_le ..)]
        exact congrArg _ (take_insAll_congr _ _ _ _ (by rw [List.take_take, Nat.min_self]))
      · rw [if_neg (fun h => hov ((hk _).1 h)),
          show (acc.length : Int) + 1 = ((insertOrd e acc).length : Nat) by rw [hlen]; rfl]
        exact ih _ hnes hnd2 hnew' (by rw [hlen]; exact Nat.not_lt.1 hov)
    · rw [if_neg hm, if_neg hm]
      exact ih acc hnes hnd2 (fun x hx => hnew x (List.mem_cons_of_mem _ hx)) hle

theorem topkLoop_eq (U : List Event) (hU : IdInj U) (f : Filter) (limit : Int) (cs : List Event) :
    ∀ (acc : List Event) (cnt : Int), (∀ x ∈ cs, x ∈ U) → (∀ x ∈ cs, C02.TagsNonEmpty x) → cs.Nodup →
      (∀ x ∈ acc, x ∈ U) → (∀ x ∈ cs, x ∉ acc) → cnt = acc.length → acc.length ≤ limit.toNat →
      topkLoop f limit cs acc cnt = .ok ((insAll (cs.filter (suOk f)) acc).take limit.toNat) :=
  -- over `U` equal ids mean equal events (`hU`), so `hnd : cs.Nodup` and `hnew` (no candidate is in `acc`) give the
  -- distinctness of ids that `topkLoop_take` asks for
  fun acc _ hcsU htags hnd haccU hnew hcnt hle =>
    hcnt ▸ topkLoop_take f limit limit.toNat (fun n => (Int.toNat_lt' (Nat.succ_pos n)).symm) cs acc htags
      (hnd.imp_of_mem fun hx hy hne hid => hne (hU _ (hcsU _ hx) _ (hcsU _ hy) hid))
      (fun x hx y hy hid => hnew x hx (hU _ (haccU y hy) _ (hcsU x hx) hid ▸ hy)) hle

/-- what one filter contributes: the `limit` first (newest; larger id first among equals) retained matches -/
def topOf (c : Cache) (f : Filter) : List Event :=
  takeOpt (f.limit.map Int.toNat) (sortOrd (c.evs.filter (nip01MatchB f ·)))

/-- what `find_eq_spec` asks of the store: ids determine events (authenticity), no event twice (distinct keys: C04), no
    empty tag (the admission gate; `Match` panics on one).  Every reachable store has it: `storeOK_reachable`. -/
structure StoreOK (c : Cache) : Prop where
  inj : IdInj c.evs
  nodup : c.evs.Nodup
  tags : ∀ e ∈ c.evs, C02.TagsNonEmpty e

/-- what `find_eq_spec` asks of a filter: `#x` names distinct (a JSON object, a Go map) and one byte long
    (`ReqFilter.Valid`; `keysFromEvent` indexes no other tags, see `idxCandidate_eq`) -/
structure FilterOK (f : Filter) : Prop where
  wf : f.WF
  names : ∀ l, f.tags = some l → ∀ c ∈ l, c.1.utf8ByteSize = 1

theorem scan_eq_topOf (c : Cache) (hc : StoreOK c) (f : Filter) (hf : FilterOK f) :
    scanLoop { f := f } c.byTime = .ok (topOf c f) := by
  rw [scanLoop_eq f hf.wf c.byTime (fun e he => hc.tags e (mem_of_mem_sortOrd he)) 0, Cache.byTime,
    sortOrd_filter hc.inj (fun _ h => h), topOf]
  congr 2
  cases hl : f.limit <;> simp [remaining, hl]

/-- for ANY duplicate-free list of exactly the index candidates, so that it serves `Cache.findIdx` (`idx_eq_topOf`) and
    `CCache.findIdx`, which intersects index sets (`C04R.cands_spec`), alike -/
theorem topk_eq_topOf (c : Cache) (hc : StoreOK c) (f : Filter) (hf : FilterOK f) (cs : List Event)
    (hnd : cs.Nodup) (hmem : ∀ x, x ∈ cs ↔ x ∈ c.evs ∧ idxCandidate f x = true) :
    topkLoop f (match f.limit with
      | some l => min (cs.length : Int) l
      | none => cs.length) cs [] 0 = .ok (topOf c f) := by
  have hcs : ∀ x ∈ cs, x ∈ c.evs := fun x hx => ((hmem x).1 hx).1
  rw [topkLoop_eq c.evs hc.inj f _ _ [] 0 hcs (fun x hx => hc.tags x (hcs x hx)) hnd (fun _ h => nomatch h)
    (fun _ _ h => nomatch h) rfl (Nat.zero_le _)]
  -- the candidates that pass since/until are the retained events that match
  have hS : insAll (cs.filter (suOk f)) [] = sortOrd (c.evs.filter (nip01MatchB f ·)) :=
    eq_sortOrd hc.inj (sortOrd_sorted _) (fun y hy => (List.mem_filter.1 hy).1) fun x => by
      rw [show insAll (cs.filter (suOk f)) [] = sortOrd (cs.filter (suOk f)) from rfl,
        mem_sortOrd hc.inj fun y hy => hcs y (List.mem_filter.1 hy).1]
      simp only [List.mem_filter, hmem, nip01MatchB_eq f x hf.names, Bool.and_eq_true, and_assoc]
  -- there are at most `cs.length` of them, so the `min` in the loop's bound changes nothing
  have hlen : (sortOrd (c.evs.filter (nip01MatchB f ·))).length ≤ cs.length :=
    hS ▸ Nat.le_trans (length_sortOrd_le _) (List.length_filter_le ..)
  rw [hS, topOf]
  congr 1
  cases f.limit with
  | none => exact List.take_of_length_le hlen
  | some l =>
    show List.take (min (cs.length : Int) l).toNat _ = List.take l.toNat _
    by_cases hle : (cs.length : Int) ≤ l
    · rw [Int.min_eq_left hle, Int.toNat_natCast, List.take_of_length_le hlen, List.take_of_length_le
        (Nat.le_trans hlen ((Int.le_toNat (Int.le_trans (Int.natCast_nonneg _) hle)).2 hle))]
    · rw [Int.min_eq_right (Int.le_of_lt (Int.not_le.1 hle))]

theorem idx_eq_topOf (c : Cache) (hc : StoreOK c) (f : Filter) (hf : FilterOK f)
    (perm : List Event → List Event) (hperm : ∀ l, (perm l).Perm l) :
    c.findIdx perm f = .ok (topOf c f) := by
  unfold Cache.findIdx
  simp only []
  have hp := hperm (c.evs.filter (idxCandidate f))
  rw [← hp.length_eq]
  exact topk_eq_topOf c hc f hf _ (hp.nodup_iff.2 (hc.nodup.filter _))
    (fun x => by rw [hp.mem_iff, List.mem_filter])

theorem foldl_findStep (c : Cache) (hc : StoreOK c) (perm : List Event → List Event) (hperm : ∀ l, (perm l).Perm l)
    (fs : List Filter) (hfs : ∀ f ∈ fs, FilterOK f) (tree : List Event) :
    fs.foldl (c.findStep perm) (.ok tree) = .ok (insAll (fs.flatMap (topOf c)) tree) := by
  induction fs generalizing tree with
  | nil => rfl
  | cons f fs ih =>
    have hf := hfs f List.mem_cons_self
    have hr : (if isFullScanFilter f then scanLoop { f := f } c.byTime else c.findIdx perm f) = .ok (topOf c f) := by
      rw [scan_eq_topOf c hc f hf, idx_eq_topOf c hc f hf perm hperm, ite_self]
    rw [List.foldl_cons, findStep_ok hr, ih (fun g hg => hfs g (List.mem_cons_of_mem _ hg)), List.flatMap_cons]
    exact congrArg Res.ok List.foldl_append.symm

theorem flatMap_topOf_subset (c : Cache) (fs : List Filter) :
    ∀ x ∈ fs.flatMap (topOf c), x ∈ c.evs := fun x hx => by
  obtain ⟨f, _, h⟩ := List.mem_flatMap.1 hx
  exact (List.mem_filter.1 (mem_of_mem_sortOrd ((takeOpt_sublist _ _).subset h))).1

theorem find_fold (c : Cache) (hc : StoreOK c) (perm : List Event → List Event) (hperm : ∀ l, (perm l).Perm l)
    (fs : List Filter) (hfs : ∀ f ∈ fs, FilterOK f) :
    ∀ (tree : List Event) (done : List Filter), Sorted tree → (∀ x ∈ tree, x ∈ c.evs) →
      (∀ e, e ∈ tree ↔ ∃ f ∈ done, e ∈ topOf c f) →
      ∃ R, fs.foldl (c.findStep perm) (.ok tree) = .ok R ∧
        Sorted R ∧ ∀ e, e ∈ R ↔ ∃ f ∈ done ++ fs, e ∈ topOf c f := by
  intro tree done hs hsub hm
  refine ⟨_, foldl_findStep c hc perm hperm fs hfs tree, insAll_sorted _ _ hs, fun e => ?_⟩
  rw [mem_insAll hc.inj (flatMap_topOf_subset c fs) hsub, hm, List.mem_flatMap]
  simp only [List.mem_append, or_and_right, exists_or, or_comm]

theorem find_eq (c : Cache) (hc : StoreOK c) (perm : List Event → List Event) (hperm : ∀ l, (perm l).Perm l)
    (fs : List Filter) (hfs : ∀ f ∈ fs, FilterOK f) :
    c.find perm fs = .ok (sortOrd (fs.flatMap (topOf c))) := by
  rcases find_cases c perm fs with ⟨hnil, h⟩ | ⟨_, h⟩ <;> rw [h]
  · -- the shortcut for an empty store: every per-filter answer is empty
    have : fs.flatMap (topOf c) = [] := List.eq_nil_iff_forall_not_mem.2 fun x hx => by
      simpa [hnil] using flatMap_topOf_subset c fs x hx
    rw [this]; rfl
  · exact foldl_findStep c hc perm hperm fs hfs []

/-- C03.  `Sorted R` and the members determine `R` (`sorted_ext`), so this says what the answer is, not only that there
    is one; in closed form, `find_eq`. -/
theorem find_eq_spec (c : Cache) (hc : StoreOK c) (perm : List Event → List Event) (hperm : ∀ l, (perm l).Perm l)
    (fs : List Filter) (hfs : ∀ f ∈ fs, FilterOK f) :
    ∃ R, c.find perm fs = .ok R ∧ Sorted R ∧ ∀ e, e ∈ R ↔ ∃ f ∈ fs, e ∈ topOf c f :=
  ⟨_, find_eq c hc perm hperm fs hfs, sortOrd_sorted _, fun e => by
    rw [mem_sortOrd hc.inj (flatMap_topOf_subset c fs), List.mem_flatMap]⟩

theorem find_perm_irrelevant (c : Cache) (hc : StoreOK c) (p1 p2 : List Event → List Event)
    (h1 : ∀ l, (p1 l).Perm l) (h2 : ∀ l, (p2 l).Perm l) (fs : List Filter) (hfs : ∀ f ∈ fs, FilterOK f) :
    c.find p1 fs = c.find p2 fs := by
  rw [find_eq c hc p1 h1 fs hfs, find_eq c hc p2 h2 fs hfs]

theorem find_congr (C C' : Cache) (hc : StoreOK C) (hc' : StoreOK C') (hmem : ∀ x, x ∈ C'.evs ↔ x ∈ C.evs)
    (perm : List Event → List Event) (hperm : ∀ l, (perm l).Perm l) (fs : List Filter)
    (hfs : ∀ f ∈ fs, FilterOK f) : C'.find perm fs = C.find perm fs := by
  have htop : topOf C' = topOf C := funext fun f => congrArg _
    (eq_sortOrd hc.inj (sortOrd_sorted _) (fun z hz => (List.mem_filter.1 hz).1) fun y => by
      rw [mem_sortOrd hc.inj (fun z hz => (hmem z).1 (List.mem_filter.1 hz).1), List.mem_filter,
        List.mem_filter, hmem])
  rw [find_eq C' hc' perm hperm fs hfs, find_eq C hc perm hperm fs hfs, htop]

theorem storeOK_of_keys {U : List Event} (hU : IdInj U) (hne : ∀ e ∈ U, C02.TagsNonEmpty e) {c : Cache}
    (hsub : ∀ x ∈ c.evs, x ∈ U) (hk : (c.evs.map eventKey).Nodup) : StoreOK c :=
  ⟨fun a ha b hb h => hU a (hsub a ha) b (hsub b hb) h, nodup_of_map_nodup eventKey _ hk, fun e he => hne e (hsub e he)⟩

theorem storeOK_reachable (cap : Int) (hcap : 0 ≤ cap) (es : List Event) (hinj : IdInj es)
    (hne : ∀ e ∈ es, C02.TagsNonEmpty e) : StoreOK (C04.run { cap := cap } es) :=
  storeOK_of_keys hinj hne (C04.run_empty_subset cap es) (C04.retention_all_histories cap hcap es).1.keys

theorem find_eq_spec_reachable (cap : Int) (hcap : 0 ≤ cap) (es : List Event) (hinj : IdInj es)
    (hne : ∀ e ∈ es, C02.TagsNonEmpty e) (perm : List Event → List Event) (hperm : ∀ l, (perm l).Perm l)
    (fs : List Filter) (hfs : ∀ f ∈ fs, FilterOK f) :
    ∃ R, (C04.run { cap := cap } es).find perm fs = .ok R ∧ Sorted R ∧
      ∀ e, e ∈ R ↔ ∃ f ∈ fs, e ∈ topOf (C04.run { cap := cap } es) f :=
  find_eq_spec _ (storeOK_reachable cap hcap es hinj hne) perm hperm fs hfs

-- `Find` and `topOf` evaluated on a store with a timestamp tie (`c` before `b`: larger id first)
def exE (id : String) (t : Int) (k : Int) : Event := { id := id, pubkey := "p", createdAt := t, kind := k, tags := [["t", "x"]], content := "", sig := "" }
def exC : Cache := { cap := 10, evs := [exE "a" 5 1, exE "b" 7 1, exE "c" 7 2, exE "d" 3 1] }
example : exC.find id [{ kinds := some [1], limit := some 2 }, { limit := some 1 }] = .ok [exE "c" 7 2, exE "b" 7 1, exE "a" 5 1] := by decide
example : topOf exC { kinds := some [1], limit := some 2 } = [exE "b" 7 1, exE "a" 5 1] := by decide

end Moc.C03
