/-
  C10, byte level: the test of `ReqFilter.UnmarshalJSON` on the UTF-8 bytes of a member name accepts only `#` followed
  by one ASCII letter (`isTagKey_inv`, the converse of `isTagKey_hash`): two bytes of which the first is below 128 are two
  ASCII characters (`two_bytes`), and on those the test is `isTagKey_ascii` (C10Filter.lean).  C10DED.lean rests on it.
-/
import MocProps.C10Filter

namespace Moc.C10

theorem flatMap_enc_length (l : List Char) : l.length ≤ (l.flatMap String.utf8EncodeChar).length := by
  induction l with
  | nil => simp
  | cons c cs ih =>
    have := c.utf8Size_pos
    simp only [List.flatMap_cons, List.length_append, String.length_utf8EncodeChar, List.length_cons]
    omega

theorem enc_two (c : Char) (h : c.utf8Size = 2) : ∃ b bs, String.utf8EncodeChar c = b :: bs ∧ 192 ≤ b.toNat := by
  refine ⟨_, _, String.utf8EncodeChar_eq_cons_cons h, ?_⟩
  rw [UInt8.toNat_or]
  exact Nat.right_le_or

theorem two_bytes (cs : List Char) (hsz : (cs.flatMap String.utf8EncodeChar).length = 2)
    (hb : ((cs.flatMap String.utf8EncodeChar).getD 0 0).toNat < 128) :
    ∃ c0 c1, cs = [c0, c1] ∧ c0.toNat ≤ 127 ∧ c1.toNat ≤ 127 := by
  obtain _ | ⟨c0, _ | ⟨c1, rest⟩⟩ := cs
  · simp at hsz
  · -- one character of two bytes: its first byte is too large
    simp only [List.flatMap_cons, List.flatMap_nil, List.append_nil, String.length_utf8EncodeChar] at hsz hb
    obtain ⟨b, bs, e, hb'⟩ := enc_two c0 hsz
    rw [e, List.getD_cons_zero] at hb
    omega
  · simp only [List.flatMap_cons, List.length_append, String.length_utf8EncodeChar] at hsz
    have := flatMap_enc_length rest
    have := c0.utf8Size_pos
    have := c1.utf8Size_pos
    have hr : rest = [] := List.length_eq_zero_iff.1 (by omega)
    exact ⟨c0, c1, by rw [hr], (utf8Size_one c0).1 (by omega), (utf8Size_one c1).1 (by omega)⟩

theorem isTagKey_inv (k : String) (h : isTagKey k = true) :
    ∃ ch, isLetterChar ch = true ∧ k = "#" ++ String.ofList [ch] := by
  have hb := h
  rw [isTagKey_bytes k _ rfl] at hb
  simp only [Gen.filterKeyTag, Bool.and_eq_true, beq_iff_eq] at hb
  obtain ⟨c0, c1, hk, h0, h1⟩ := two_bytes k.toList (by exact_mod_cast hb.1.1) (by omega)
  obtain ⟨rfl, hl⟩ := (isTagKey_ascii k c0 c1 hk h0 h1).1 h
  refine ⟨c1, hl, ?_⟩
  rw [← String.ofList_toList (s := k), hk]
  exact String.ofList_append (l₁ := ['#']) (l₂ := [c1])

/-- `isTagKey_inv` with the name written as `decTagConds` computes it (`k.toList.drop 1`) -/
theorem tagKey_name (k : String) (h : isTagKey k = true) :
    k = "#" ++ String.ofList (k.toList.drop 1) ∧
    ∃ ch, String.ofList (k.toList.drop 1) = String.ofList [ch] ∧ isLetterChar ch = true := by
  obtain ⟨ch, hch, rfl⟩ := isTagKey_inv k h
  exact ⟨by simp, ch, by simp, hch⟩

end Moc.C10
