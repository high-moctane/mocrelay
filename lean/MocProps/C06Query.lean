/-
  C06, the query: the row test of a filter's sub-select is the NIP-01 predicate on the stored event
  (`rowMatches_of_event`, via `tagRows_mem`; `rowMatches_eq` is the same under two more hypotheses), hence after ANY
  history each filter selects exactly the visible stored events that match it (`candidates_eq`, `mem_selected`).
-/
import MocModel.Sqlite
import MocModel.Spec.Nip01
import MocProps.C06Tables
import MocProps.C02Lemmas
namespace Moc.C06

/-- a tag name as `ReqFilter.Valid` admits it: one ASCII letter -/
def Letter (k : String) : Prop := ∃ c : Char, k = String.ofList [c] ∧ isAsciiLetter k = true

theorem singleton_append_inj {ca cb : Char} {x y : String} (h : String.ofList [ca] ++ x = String.ofList [cb] ++ y) :
    ca = cb ∧ x = y := by
  have := congrArg String.toList h
  simp only [String.toList_append, String.toList_ofList, List.cons_append, List.nil_append, List.cons.injEq] at this
  exact ⟨this.1, String.toList_injective this.2⟩

theorem tagRows_mem (e : Event) (key : SKey) (k v : String) (hk : Letter k) :
    (k ++ v, e.createdAt, key) ∈ tagRows e key ↔ ∃ t ∈ e.tags, tagName? t = some k ∧ tagValue t = v := by
  obtain ⟨ck, rfl, hlet⟩ := hk
  rw [mem_tagRows_iff]
  constructor
  · rintro ⟨t, ht, n, hn, hl, h⟩
    obtain ⟨cn, rfl, _⟩ := isAsciiLetter_single n hl
    obtain ⟨rfl, hv⟩ := singleton_append_inj (Prod.mk.inj h).1
    exact ⟨t, ht, hn, hv⟩
  · rintro ⟨t, ht, hn, rfl⟩
    exact ⟨t, ht, _, hn, hlet, rfl⟩

/-- what `ReqFilter.Valid` guarantees: lower-case hex ids and authors, single-letter tag names -/
structure FilterHexOK (f : Filter) : Prop where
  ids : ∀ l, f.ids = some l → ∀ x ∈ l, hexNorm x = some x
  authors : ∀ l, f.authors = some l → ∀ x ∈ l, hexNorm x = some x
  names : ∀ l, f.tags = some l → ∀ c ∈ l, Letter c.1

theorem mapM_some {α β} (g : α → Option β) (h : α → β) (l : List α) (hg : ∀ x ∈ l, g x = some (h x)) :
    l.mapM g = some (l.map h) := by
  induction l with
  | nil => rfl
  | cons x xs ih =>
    rw [List.mapM_cons, hg x (by simp), ih (fun y hy => hg y (List.mem_cons_of_mem _ hy))]
    rfl

theorem normList_ok (o : Option (List String)) (h : ∀ l, o = some l → ∀ x ∈ l, hexNorm x = some x) :
    normList o = some o := by
  cases o with
  | none => rfl
  | some l => simp [normList, mapM_some hexNorm id l (h l rfl)]

theorem sinceTest_eq (o : Option Int) (c : Int) : sinceTest o c = sinceOkB o c := by cases o <;> rfl
theorem untilTest_eq (o : Option Int) (c : Int) : untilTest o c = untilOkB o c := by cases o <;> rfl

theorem rowMatches_of_event (db : Db) (f : Filter) (hf : FilterHexOK f) (r : ERow) (e : Event) (p : Params)
    (hp : buildParams e = some p) (hlow : LowerHex e) (hrow : p.row = r)
    (htags : ∀ t, (t ∈ db.tags ∧ t.2.2 = r.key) ↔ (t ∈ p.tagRows ∧ t.2.2 = r.key)) :
    db.rowMatches f r = some (!db.hidden r && nip01MatchB f e) := by
  obtain ⟨key, _, rfl⟩ := buildParams_lower hp hlow
  subst hrow
  have htg : db.tagsTest f.tags { key := key, id := e.id, pubkey := e.pubkey, createdAt := e.createdAt, kind := e.kind } =
      tagsOkB f.tags e := by
    unfold Db.tagsTest tagsOkB
    cases hft : f.tags with
    | none => rfl
    | some conds =>
      exact all_congr_on conds _ _ fun c hc => C02.any_eq_hasTagB e c.1 c.2 _ fun v => by
        rw [List.contains_iff_mem, ← tagRows_mem e key c.1 v (hf.names conds hft c hc)]
        simpa using htags (c.1 ++ v, e.createdAt, key)
  simp only [Db.rowMatches, normList_ok _ hf.ids, normList_ok _ hf.authors, Db.rowTest, nip01MatchB, htg,
    sinceTest_eq, untilTest_eq]
  congr 1
  ac_rfl

set_option linter.unusedVariables false in
/-- `rowMatches_of_event` with two hypotheses it does not need (`hinv`, `hr`). -/
theorem rowMatches_eq (ps : List Params) (db : Db) (hinv : TInv ps db) (f : Filter) (hf : FilterHexOK f)
    (r : ERow) (hr : r ∈ db.events) (e : Event) (p : Params) (hp : buildParams e = some p) (hlow : LowerHex e)
    (hrow : p.row = r)
    (htags : ∀ t, (t ∈ db.tags ∧ t.2.2 = r.key) ↔ (t ∈ p.tagRows ∧ t.2.2 = r.key)) :
    db.rowMatches f r = some (!db.hidden r && nip01MatchB f e) :=
  rowMatches_of_event db f hf r e p hp hlow hrow htags

def evOf (db : Db) (r : ERow) : Event := (db.eventOf r).getD default

/-- the visible stored events that match `f`, written in the shape of `Db.candidates` (membership: `mem_selected`) -/
def selected (db : Db) (f : Filter) : List Event :=
  ((db.events.map fun r => (r, !db.hidden r && nip01MatchB f (evOf db r))).filter (·.2)).filterMap (fun p => db.eventOf p.1)

/-- After any history the query is buildable (`some`) and each filter's sub-select yields `selected`, with the filter's
    limit. -/
theorem candidates_eq (batches : List (List Event)) (hlow : ∀ e ∈ batches.flatten, LowerHex e)
    (fs : List Filter) (hfs : ∀ f ∈ fs, FilterHexOK f) :
    (batches.foldl Db.insertBatch {}).candidates fs =
      some (fs.map fun f => { ms := selected (batches.foldl Db.insertBatch {}) f, limit := filterLimit f }) := by
  have hinv := tables_after_history batches
  generalize hdb : batches.foldl Db.insertBatch {} = db at hinv
  refine mapM_some _ _ _ fun f hf => ?_
  have hrows : db.events.mapM (fun r => (db.rowMatches f r).map fun b => (r, b)) =
      some (db.events.map fun r => (r, !db.hidden r && nip01MatchB f (evOf db r))) := by
    refine mapM_some _ _ _ fun r hr => ?_
    obtain ⟨p, hp, hrow, hpay, htags⟩ := hinv.src r hr
    obtain ⟨e, he, hb⟩ := List.mem_filterMap.1 hp
    rw [rowMatches_of_event db f (hfs f hf) r e p hb (hlow e he) hrow htags, evOf,
      eventOf_src hb (hlow e he) hrow hpay]
    rfl
  simp only [hrows, selected]
  rfl

theorem mem_selected (db : Db) (f : Filter) (e : Event) :
    e ∈ selected db f ↔ ∃ r ∈ db.events, db.eventOf r = some e ∧ db.hidden r = false ∧ nip01MatchB f (evOf db r) = true := by
  simp only [selected, List.mem_filterMap, List.mem_filter, List.mem_map]
  constructor
  · rintro ⟨⟨r, b⟩, ⟨⟨r', hr', heq⟩, hb⟩, he⟩
    simp only [Prod.mk.injEq] at heq
    obtain ⟨rfl, rfl⟩ := heq
    simp only [Bool.and_eq_true, Bool.not_eq_true'] at hb
    exact ⟨r', hr', he, hb.1, hb.2⟩
  · rintro ⟨r, hr, he, hh, hm⟩
    exact ⟨(r, !db.hidden r && nip01MatchB f (evOf db r)), ⟨⟨r, hr, rfl⟩, by simp [hh, hm]⟩, he⟩

/-! non-vacuity of the hypotheses of `candidates_eq` -/
def exE1 : Event := { id := "aa", pubkey := "bb", createdAt := 5, kind := 1, tags := [["t", "x"]], content := "c", sig := "cc" }
def exF1 : Filter := { ids := some ["aa"], tags := some [("t", ["x", "y"])], limit := some 1 }
example : LowerHex exE1 := ⟨by decide, by decide, by decide⟩
example : FilterHexOK exF1 := by
  refine ⟨?_, ?_, ?_⟩
  · intro l hl x hx; simp [exF1] at hl; subst hl; simp at hx; subst hx; decide
  · intro l hl; simp [exF1] at hl
  · intro l hl c hc; simp [exF1] at hl; subst hl; simp at hc; subst hc; exact ⟨'t', rfl, by decide⟩
example : ((([[exE1]] : List (List Event)).foldl Db.insertBatch {}).candidates [exF1]).map (fun l => l.map (fun c => (c.ms.map (·.id), c.limit))) =
    some [(["aa"], some 1)] := by decide +kernel
end Moc.C06
