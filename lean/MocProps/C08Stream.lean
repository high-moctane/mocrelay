/-
  C08, trace level: the stream forwarded before the merged EOSE is non-increasing in created_at, pairwise distinct,
  matches the REQ's filters and respects a single filter's limit — for every trace (`pre_eose_stream`,
  `pre_eose_stream_from_req`).  Invariant `SInv` relates the per-subscription state (last event looked at, ids seen
  at its timestamp, limit counters) to the list of events forwarded so far; `subStep_inv` carries it through one
  look at a child's event (not forwarded: `SInv.skip`, forwarded: `SInv.forward`); `J` (`SInv` while the state exists,
  `Good` of the finished stream after) is carried by `J_child` / `J_client` through every step of a session.
-/
import MocModel.Merge
import MocModel.Spec.Nip01
import MocProps.C02
import MocProps.C08
namespace Moc.C08

/-- `F`: the events forwarded so far for the subscription, oldest first -/
structure SInv (filters : List Filter) (r : ReqSub) (F : List Event) : Prop where
  fs : r.matchers.map (·.f) = filters
  empty : r.last = none → F = []
  ge : ∀ l, r.last = some l → ∀ f ∈ F, l.createdAt ≤ f.createdAt
  seen : ∀ l, r.last = some l → ∀ f ∈ F, f.createdAt = l.createdAt → f.id ∈ r.seen
  sorted : F.Pairwise (fun a b => a.createdAt ≥ b.createdAt)
  distinct : F.Pairwise (· ≠ ·)
  matched : ∀ f ∈ F, nip01MatchAnyB filters f = true
  count : ∀ m0, r.matchers = [m0] → m0.cnt = (F.length : Int)
  lim : ∀ m0 n, r.matchers = [m0] → m0.f.limit = some n → F = [] ∨ (F.length : Int) ≤ n

theorem map_count_of_no_match (ms : List LMatcher) (e : Event) (h : (ms.any fun m => nip01MatchB m.f e) = false) :
    (ms.map fun m => ({ m with cnt := m.cnt + (if nip01MatchB m.f e then 1 else 0) } : LMatcher)) = ms := by
  refine (List.map_congr_left fun m hm => ?_).trans (List.map_id ms)
  have : nip01MatchB m.f e = false := by
    cases hb : nip01MatchB m.f e with
    | false => rfl
    | true => rw [List.any_eq_true.2 ⟨m, hm, hb⟩] at h; cases h
  simp only [this, Bool.false_eq_true, if_false, Int.add_zero, id]

/-- An event that `ordStep` lets through is not newer than anything forwarded so far, and what was forwarded at its own
    timestamp is still in `seen'` (`hsame`: `ordStep` forgets `seen` only when the timestamp moves): so appending it keeps
    the stream sorted, and distinct as long as its id is not in `seen'`. -/
theorem SInv.order {filters : List Filter} {r : ReqSub} {F : List Event} (h : SInv filters r F) (e : Event)
    (seen' : List String) (hle : ∀ l, r.last = some l → e.createdAt ≤ l.createdAt)
    (hsame : ∀ l, r.last = some l → l.createdAt = e.createdAt → seen' = r.seen) :
    (∀ f ∈ F, e.createdAt ≤ f.createdAt) ∧ ∀ f ∈ F, f.createdAt = e.createdAt → f.id ∈ seen' := by
  cases hl : r.last with
  | none => rw [h.empty hl]; exact ⟨List.forall_mem_nil _, List.forall_mem_nil _⟩
  | some l =>
    refine ⟨fun f hf => Int.le_trans (hle l hl) (h.ge l hl f hf), fun f hf heq => ?_⟩
    have hlq : l.createdAt = e.createdAt := Int.le_antisymm (heq ▸ h.ge l hl f hf) (hle l hl)
    rw [hsame l hl hlq]
    exact h.seen l hl f hf (heq.trans hlq.symm)

/-- `SInv` does not read the EOSE flags: every field of `h` has, up to reduction of the projections, the type asked for -/
theorem SInv.set_eose {filters : List Filter} {r : ReqSub} {F : List Event} (h : SInv filters r F) (flags : List Bool) :
    SInv filters { r with eose := flags } F :=
  { h with }

theorem SInv.skip {filters : List Filter} {r : ReqSub} {F : List Event} (h : SInv filters r F) (e : Event)
    (seen' : List String) (hge : ∀ f ∈ F, e.createdAt ≤ f.createdAt)
    (hseen : ∀ f ∈ F, f.createdAt = e.createdAt → f.id ∈ seen') :
    SInv filters { r with last := some e, seen := seen' } F :=
  { h with
    empty := fun hn => (Option.some_ne_none _ hn).elim
    ge := fun l hl => by cases hl; exact hge
    seen := fun l hl => by cases hl; exact hseen }

theorem SInv.forward {filters : List Filter} {r : ReqSub} {F : List Event} (h : SInv filters r F) (e : Event)
    (s : List String) (hge : ∀ f ∈ F, e.createdAt ≤ f.createdAt) (hseen : ∀ f ∈ F, f.createdAt = e.createdAt → f.id ∈ s)
    (hs : e.id ∉ s) (hd : doneAll r.matchers = false) (hb : (r.matchers.any fun m => nip01MatchB m.f e) = true) :
    SInv filters { r with last := some e, seen := e.id :: s, matchers := r.matchers.map fun m =>
      ({ m with cnt := m.cnt + (if nip01MatchB m.f e then 1 else 0) } : LMatcher) } (F ++ [e]) := by
  have hone : ∀ a, r.matchers = [a] → nip01MatchB a.f e = true ∧ a.done = false := fun a ha => by
    rw [ha] at hb hd
    simp only [List.any_cons, List.any_nil, Bool.or_false] at hb
    simp only [doneAll, List.all_cons, List.all_nil, Bool.and_true] at hd
    exact ⟨hb, hd⟩
  exact {
    fs := by rw [List.map_map]; exact h.fs
    empty := fun hn => (Option.some_ne_none _ hn).elim
    ge := fun l hl => by
      cases hl
      exact List.forall_mem_append.2 ⟨hge, List.forall_mem_singleton.2 (Int.le_refl _)⟩
    seen := fun l hl => by
      cases hl
      exact List.forall_mem_append.2 ⟨fun f hf heq => List.mem_cons_of_mem _ (hseen f hf heq),
        List.forall_mem_singleton.2 fun _ => List.mem_cons_self⟩
    sorted := List.pairwise_append.2 ⟨h.sorted, List.pairwise_singleton _ _,
      fun a ha b hb => List.mem_singleton.1 hb ▸ hge a ha⟩
    distinct := by
      refine List.pairwise_append.2 ⟨h.distinct, List.pairwise_singleton _ _, fun a ha b hb heq => ?_⟩
      rw [List.mem_singleton.1 hb] at heq
      exact hs (heq ▸ hseen a ha (heq ▸ rfl))
    matched := by
      refine List.forall_mem_append.2 ⟨h.matched, List.forall_mem_singleton.2 ?_⟩
      rw [← hb, ← h.fs, nip01MatchAnyB, List.any_map]; rfl
    count := fun m0 hm0 => by
      obtain ⟨a, ha, rfl⟩ := List.map_eq_singleton_iff.1 hm0
      have := h.count a ha
      simp only [(hone a ha).1, if_true, List.length_append, List.length_singleton]
      omega
    lim := fun m0 n hm0 hn => by
      obtain ⟨a, ha, rfl⟩ := List.map_eq_singleton_iff.1 hm0
      have := h.count a ha
      have : ¬ n ≤ a.cnt := fun hle =>
        Bool.false_ne_true ((hone a ha).2.symm.trans ((C02.done_iff_limit a).2 ⟨n, hn, hle⟩))
      right
      simp only [List.length_append, List.length_singleton]
      omega }

theorem subStep_inv (filters : List Filter) (r : ReqSub) (F : List Event) (e : Event)
    (h : SInv filters r F) (hwf : ∀ f ∈ filters, f.WF) (hne : C02.TagsNonEmpty e) :
    ∃ b, (subStep r e).2 = .ok b ∧ SInv filters (subStep r e).1 (if b then F ++ [e] else F) := by
  rcases subStep_cases r e with h0 | ⟨s, hle, hsame, hcase⟩
  · rw [h0]; exact ⟨false, rfl, h⟩
  · obtain ⟨hge, hseen⟩ := h.order e s hle hsame
    have hseen' : ∀ f ∈ F, f.createdAt = e.createdAt → f.id ∈ e.id :: s :=
      fun f hf heq => List.mem_cons_of_mem _ (hseen f hf heq)
    have hspec := C02.limitMatchAll_spec r.matchers e (fun m hm => hwf _ (h.fs ▸ List.mem_map.2 ⟨m, hm, rfl⟩)) hne
    rcases hcase with ⟨-, h0⟩ | ⟨-, -, h0⟩ | ⟨-, -, hp, -⟩ | ⟨m, ms', hs, hd, hlm, h0⟩
    · rw [h0]; exact ⟨false, rfl, h.skip e s hge hseen⟩
    · rw [h0]; exact ⟨false, rfl, h.skip e _ hge hseen'⟩
    · rw [hspec] at hp; cases hp
    · rw [hspec] at hlm
      obtain ⟨rfl, rfl⟩ := Prod.mk.inj (Res.ok.inj hlm)
      rw [h0]
      refine ⟨_, rfl, ?_⟩
      cases hb : (r.matchers.any fun m => nip01MatchB m.f e) with
      | false =>
        rw [map_count_of_no_match _ _ hb]
        exact h.skip e _ hge hseen'
      | true => exact h.forward e s hge hseen hs hd hb

/-- what C08 asks of the events forwarded before the EOSE (`F = [] ∨`: the limit is any `Int`) -/
def Good (filters : List Filter) (F : List Event) : Prop :=
  F.Pairwise (fun a b => a.createdAt ≥ b.createdAt) ∧ F.Pairwise (· ≠ ·) ∧
  (∀ f ∈ F, nip01MatchAnyB filters f = true) ∧
  (∀ f0 n, filters = [f0] → f0.limit = some n → F = [] ∨ (F.length : Int) ≤ n)

theorem SInv.good {filters : List Filter} {r : ReqSub} {F : List Event} (h : SInv filters r F) : Good filters F := by
  refine ⟨h.sorted, h.distinct, h.matched, fun f0 n hf hn => ?_⟩
  obtain ⟨a, ha, rfl⟩ := List.map_eq_singleton_iff.1 (h.fs.trans hf)
  exact h.lim a n ha hn

/-- what one child message adds to the stream forwarded for `sub` before its EOSE -/
def fwdOf (sub : String) (st : MergeSt) (i : Nat) (msg : ServerMsg) : List Event :=
  match msg with
  | .event s e =>
    if s = sub ∧ (alGet st.req sub).isSome = true ∧ (st.child i msg).2 = .ok (some (.event s e)) then [e] else []
  | _ => []

/-- the events forwarded for `sub` while its state exists, i.e. before its merged EOSE (or CLOSE) -/
def preFwd (sub : String) : MergeSt → List MStep → List Event
  | _, [] => []
  | st, .client m :: tr => preFwd sub (st.client m) tr
  | st, .child i msg :: tr => fwdOf sub st i msg ++ preFwd sub (st.child i msg).1 tr

/-- what a session keeps about `sub` after a REQ: while the state exists it is open (some child owes its EOSE) and `SInv`
    holds of what was forwarded; once the state is gone the stream is finished and was `Good` -/
def J (filters : List Filter) (sub : String) (st : MergeSt) (F : List Event) : Prop :=
  match alGet st.req sub with
  | some r => SInv filters r F ∧ r.eose.contains false = true
  | none => Good filters F

theorem J_some {filters : List Filter} {sub : String} {st : MergeSt} {F : List Event} {r : ReqSub}
    (h : alGet st.req sub = some r) : J filters sub st F ↔ SInv filters r F ∧ r.eose.contains false = true := by
  rw [J, h]

theorem J_none {filters : List Filter} {sub : String} {st : MergeSt} {F : List Event} (h : alGet st.req sub = none) :
    J filters sub st F ↔ Good filters F := by
  rw [J, h]

theorem J.good {filters : List Filter} {sub : String} {st : MergeSt} {F : List Event} (hj : J filters sub st F) :
    Good filters F := by
  cases hr : alGet st.req sub with
  | none => exact (J_none hr).1 hj
  | some r => exact ((J_some hr).1 hj).1.good

theorem J_of_eq (filters : List Filter) (sub : String) (st st' : MergeSt) (F : List Event)
    (h : alGet st'.req sub = alGet st.req sub) (hj : J filters sub st F) : J filters sub st' F := by
  rw [J, h]; exact hj

/- from here on `J` is used through the four lemmas above: left reducible, every goal `J … (st.child i msg).1 …` has `whnf`
   unfold the handlers down to the association lists -/
attribute [local irreducible] J

theorem J_erased (filters : List Filter) (sub : String) (st st' : MergeSt) (F : List Event)
    (h : alGet st'.req sub = none) (hj : J filters sub st F) : J filters sub st' F :=
  (J_none h).2 hj.good

theorem J_client (filters : List Filter) (sub : String) (st : MergeSt) (F : List Event) (m : ClientMsg)
    (hnr : isReqFor sub (.client m) = false) (hj : J filters sub st F) : J filters sub (st.client m) F := by
  rcases client_req_other st m sub hnr with h | h
  · exact J_of_eq _ _ st _ F h hj
  · exact J_erased _ _ st _ F h hj

theorem subStep_eose (r : ReqSub) (e : Event) : (subStep r e).1.eose = r.eose := by
  rcases subStep_cases r e with h | ⟨s, -, -, ⟨-, h⟩ | ⟨-, -, h⟩ | ⟨-, -, -, h⟩ | ⟨m, ms', -, -, -, h⟩⟩ <;> rw [h]

theorem fwd_event (sub : String) (st st' : MergeSt) (i : Nat) (e : Event) (b : Bool)
    (h : sendableEvent st i sub e = (st', .ok b)) (hs : (alGet st.req sub).isSome = true) (F : List Event) :
    (st.child i (.event sub e)).1 = st' ∧ F ++ fwdOf sub st i (.event sub e) = if b then F ++ [e] else F := by
  simp only [fwdOf, MergeSt.child, h, hs, true_and]
  cases b <;> simp

theorem J_child (filters : List Filter) (hwf : ∀ f ∈ filters, f.WF) (sub : String) (st : MergeSt) (F : List Event)
    (i : Nat) (msg : ServerMsg) (hne : ∀ s e, msg = .event s e → C02.TagsNonEmpty e) (hj : J filters sub st F) :
    J filters sub (st.child i msg).1 (F ++ fwdOf sub st i msg) := by
  have quiet : ∀ st' : MergeSt, fwdOf sub st i msg = [] → J filters sub st' F →
      J filters sub st' (F ++ fwdOf sub st i msg) := fun st' h hj' => by rw [h, List.append_nil]; exact hj'
  cases msg with
  | eose s =>
    refine quiet _ rfl ?_
    show J filters sub (sendEose st i s).1 F
    by_cases hs : sub = s
    · subst hs
      rcases sendEose_cases st i sub with ⟨_, e⟩ | ⟨r, _, _, e⟩ | ⟨r, hr, _, hc, e⟩ | ⟨r, _, _, _, e⟩ <;> rw [e]
      · exact hj
      · exact J_erased _ _ st _ F (alGet_alErase_self _ _) hj
      · exact (J_some (alGet_alSet_self _ _ _)).2 ⟨((J_some hr).1 hj).1.set_eose _, hc⟩
      · exact J_erased _ _ st _ F (alGet_alErase_self _ _) hj
    · exact J_of_eq _ _ st _ F (sendEose_req_ne st i s sub hs) hj
  | event s e =>
    by_cases hs : s = sub
    · subst hs
      rcases sendableEvent_cases st i s e with ⟨hr, -⟩ | ⟨r, hr, hc, -⟩ | ⟨r, hr, -, -, h⟩ | ⟨r, hr, hopen, -, h⟩
      · rw [event_after_eose st i s e hr, fwdOf, hr, if_neg (fun h => Bool.false_ne_true h.2.1), List.append_nil]
        exact hj
      · -- a stored state with every flag set does not satisfy `J`
        rw [((J_some hr).1 hj).2] at hc
        cases hc
      · obtain ⟨h1, h2⟩ := fwd_event s st st i e false h (by rw [hr]; rfl) F
        rw [h1, h2]
        exact hj
      · obtain ⟨b, hb, hinv'⟩ := subStep_inv filters r F e ((J_some hr).1 hj).1 hwf (hne s e rfl)
        rw [hb] at h
        obtain ⟨h1, h2⟩ := fwd_event s st _ i e b h (by rw [hr]; rfl) F
        rw [h1, h2]
        exact (J_some (alGet_alSet_self _ _ _)).2 ⟨hinv', by rw [subStep_eose]; exact hopen⟩
    · exact quiet _ (if_neg fun h => hs h.1) (J_of_eq _ _ st _ F (sendableEvent_req_ne st i s e sub (Ne.symm hs)) hj)
  | _ => exact quiet _ rfl (J_of_eq _ _ st _ F (by rw [C09.child_tables]) hj)

/-- From any state satisfying `J` (right after a REQ: `J_after_req`), over any trace that does not re-issue `sub`: what is
    forwarded for `sub` while its state exists, appended to what was forwarded before (`F`), is `Good`.  The filters and
    the children's events are as C02 needs them (`Filter.WF`, `TagsNonEmpty`). -/
theorem pre_eose_stream (filters : List Filter) (hwf : ∀ f ∈ filters, f.WF) (sub : String) (tr : List MStep) :
    ∀ (st : MergeSt) (F : List Event), J filters sub st F → (∀ s ∈ tr, isReqFor sub s = false) →
      (∀ i s e, MStep.child i (.event s e) ∈ tr → C02.TagsNonEmpty e) →
      Good filters (F ++ preFwd sub st tr) := by
  induction tr with
  | nil =>
    intro st F hj _ _
    rw [preFwd, List.append_nil]
    exact hj.good
  | cons s tr ih =>
    intro st F hj hnr hne
    have hnr' : ∀ s ∈ tr, isReqFor sub s = false := fun s hs => hnr s (List.mem_cons_of_mem _ hs)
    have hne' : ∀ i s e, MStep.child i (.event s e) ∈ tr → C02.TagsNonEmpty e :=
      fun i s e h => hne i s e (List.mem_cons_of_mem _ h)
    cases s with
    | client m =>
      simp only [preFwd]
      exact ih _ F (J_client filters sub st F m (hnr _ (by simp)) hj) hnr' hne'
    | child i msg =>
      simp only [preFwd]
      have hj' := J_child filters hwf sub st F i msg (fun s e h => hne i s e (by simp [h])) hj
      have := ih _ _ hj' hnr' hne'
      rw [List.append_assoc] at this
      exact this

theorem J_after_req (st : MergeSt) (sub : String) (fs : List Filter) (hn : 0 < st.n) :
    J fs sub (st.client (.req sub fs)) [] := by
  obtain ⟨r, hr, he, hopen, hl, hs, hm⟩ := req_opens st sub fs hn
  refine (J_some hr).2 ⟨?_, hopen⟩
  exact {
    fs := by rw [hm, newMatchers, List.map_map]; exact List.map_id fs
    empty := fun _ => rfl
    ge := fun _ _ => List.forall_mem_nil _
    seen := fun _ _ => List.forall_mem_nil _
    sorted := .nil
    distinct := .nil
    matched := List.forall_mem_nil _
    count := fun m0 hm0 => by
      obtain ⟨f, -, rfl⟩ := List.map_eq_singleton_iff.1 (hm ▸ hm0)
      rfl
    lim := fun _ _ _ _ => .inl rfl }

/-- C08's clause about the stream before the EOSE, for a subscription from its REQ on, in a session with a child. -/
theorem pre_eose_stream_from_req (st : MergeSt) (hn : 0 < st.n) (sub : String) (fs : List Filter)
    (hwf : ∀ f ∈ fs, f.WF) (tr : List MStep) (hnr : ∀ s ∈ tr, isReqFor sub s = false)
    (hne : ∀ i s e, MStep.child i (.event s e) ∈ tr → C02.TagsNonEmpty e) :
    Good fs (preFwd sub (st.client (.req sub fs)) tr) := by
  simpa using pre_eose_stream fs hwf sub tr _ [] (J_after_req st sub fs hn) hnr hne

/-! non-vacuity: the trace of C08's example; two events are forwarded before the EOSE -/
example : preFwd "s" ({ n := 2 } : MergeSt) exTrace = [ev "a" 20, ev "c" 10] := by decide

end Moc.C08
