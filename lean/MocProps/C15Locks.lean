/-
  C15 (and the registry of C07): lock discipline, as theorems about tables regenerated from the source on every
  run.  Together with `sync.RWMutex` (trusted) these are what makes each public call of the store one atomic step
  of the sequential model, i.e. what the linearizability search of the harness otherwise only samples.
-/
import MocModel.Locks

namespace Moc.C15Locks

/- One declaration for the three facts about the store's table: they need the same reach sets, which the kernel then
   computes once.  The cost is in comparing method names (string literals are UTF-8 byte arrays, dear to compare by
   evaluation); `decide +kernel` leaves that to the kernel alone, where plain `decide` has the elaborator evaluate the
   same term first. -/
theorem cache_table :
    lockOK Gen.locksCache = true ∧
    (∀ w ∈ writers Gen.locksCache, holdersOf Gen.locksCache w = [("EventCache.Add", "Lock")]) ∧
    (Gen.locksCache.filter LockRow.entry).map (fun (r : LockRow) => (r.name, r.lock, (reachOf Gen.locksCache r.name).filter (fun m => lockOf Gen.locksCache m != "none")))
      = [("EventCache.Len", "RLock", []), ("EventCache.Add", "Lock", []), ("EventCache.Find", "none", ["EventCache.findNeedLock"])] := by
  decide +kernel

theorem cache_lock_discipline : lockOK Gen.locksCache = true := cache_table.1

theorem cache_state_private : Gen.cacheFieldsOutside = [] := by decide

theorem cache_writers_under_write_lock :
    ∀ w ∈ writers Gen.locksCache, holdersOf Gen.locksCache w = [("EventCache.Add", "Lock")] := cache_table.2.1

/-- `Find` takes no lock itself and reaches the state only through `findNeedLock`, which locks -/
theorem cache_entries :
    (Gen.locksCache.filter LockRow.entry).map (fun (r : LockRow) => (r.name, r.lock, (reachOf Gen.locksCache r.name).filter (fun m => lockOf Gen.locksCache m != "none")))
      = [("EventCache.Len", "RLock", []), ("EventCache.Add", "Lock", []), ("EventCache.Find", "none", ["EventCache.findNeedLock"])] := cache_table.2.2

theorem safeMap_lock_discipline :
    lockOK Gen.locksSafeMap = true ∧
    Gen.locksSafeMap.map (fun (r : LockRow) => (r.name, r.lock, r.writes)) =
      [("safeMap.Get", "RLock", false), ("safeMap.TryGet", "RLock", false), ("safeMap.Add", "Lock", true),
       ("safeMap.Delete", "Lock", true), ("safeMap.Loop", "RLock", false)] := by decide

/-! non-vacuity: the checker rejects the realistic ways of breaking the discipline -/

/-- a reader that writes -/
example : lockOK [("T.Get", "RLock", true, true, true, [])] = false := by decide
/-- a public method that reads state without the lock -/
example : lockOK [("T.Len", "none", false, true, true, [])] = false := by decide
/-- a public method that reaches an unlocked state-touching helper -/
example : lockOK [("T.Len", "none", false, false, true, ["T.len"]), ("T.len", "none", false, true, false, [])] = false := by decide
/-- a reader that reaches a writer through a helper -/
example : lockOK [("T.Find", "RLock", false, true, true, ["T.h"]), ("T.h", "none", false, false, false, ["T.w"]), ("T.w", "none", true, true, false, [])] = false := by decide
/-- re-entrant acquisition -/
example : lockOK [("T.Add", "Lock", true, true, true, ["T.Len"]), ("T.Len", "RLock", false, true, true, [])] = false := by decide
/-- unlock not deferred / lock taken later in the body -/
example : lockOK [("T.Add", "irregular", true, true, true, [])] = false := by decide

end Moc.C15Locks
