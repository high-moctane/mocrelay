/-
  C18 — Stateful middlewares: subscription quota and per-connection de-duplication.

  Model: `Mw.client/.server` for `.maxSubs`, `.recvUnique`, `.sendUnique` (MocModel/Middleware.lean);
  the hashicorp LRU is a hand-modelled library contract (`lruGet`, `lruAdd`), validated by the
  correspondence run on every check.  Sessions are separate states of one instance (`Sys`); their running
  concurrently is exercised at run time, not proved.
-/
import MocModel.Spec.Mw

namespace Moc.C18

/-- the quota's `subs` is a set (the keys of a Go map) of at most `n` ids -/
def QuotaInv (n : Int) (st : MwSt) : Prop := st.subs.Nodup ∧ (st.subs.length : Int) ≤ n

theorem quota_inv_init (n : Int) (hn : 0 ≤ n) : QuotaInv n {} := ⟨List.nodup_nil, hn⟩

/-- closed form of the REQ branch of `handleClientReqMsg` (insert, test `len > max`, delete + reject) -/
theorem maxSubs_req (n : Int) (st : MwSt) (now : Int) (sub : String) (fs : List Filter) :
    (Mw.maxSubs n).client st now (.req sub fs) =
      if sub ∈ st.subs then
        (if (st.subs.length : Int) > n then
            ({ st with subs := st.subs.erase sub }, .reject (.closed sub "" (fmtD Gen.maxSubsFmt n)))
          else (st, .fwd (.req sub fs)))
      else
        (if (st.subs.length : Int) + 1 > n then (st, .reject (.closed sub "" (fmtD Gen.maxSubsFmt n)))
          else ({ st with subs := sub :: st.subs }, .fwd (.req sub fs))) := by
  by_cases hm : sub ∈ st.subs <;> simp [Mw.client, Gen.maxSubsReject, hm]

/-- C18's rule for a REQ.  `hinv` is needed because the code inserts first and tests `len > max` afterwards
    (`maxSubs_req`). -/
theorem quota_req (n : Int) (st : MwSt) (now : Int) (sub : String) (fs : List Filter) (hinv : QuotaInv n st) :
    ((sub ∈ st.subs ∨ (st.subs.length : Int) < n) →
        (Mw.maxSubs n).client st now (.req sub fs) =
          ({ st with subs := if sub ∈ st.subs then st.subs else sub :: st.subs }, .fwd (.req sub fs))) ∧
    (¬ (sub ∈ st.subs ∨ (st.subs.length : Int) < n) →
        (Mw.maxSubs n).client st now (.req sub fs) = (st, .reject (.closed sub "" (fmtD Gen.maxSubsFmt n)))) := by
  have hlen := hinv.2
  rw [maxSubs_req]
  by_cases hm : sub ∈ st.subs
  · simp only [hm, true_or, not_true, if_true, false_implies, and_true, true_implies]
    rw [if_neg (by omega)]
  · simp only [hm, false_or, if_false]
    exact ⟨fun h => if_neg (by omega), fun h => if_pos (by omega)⟩

theorem quota_close (n : Int) (st : MwSt) (now : Int) (sub : String) (hinv : QuotaInv n st) :
    (Mw.maxSubs n).client st now (.close sub) = ({ st with subs := st.subs.erase sub }, .fwd (.close sub)) ∧
    sub ∉ st.subs.erase sub := by
  refine ⟨rfl, ?_⟩
  exact fun h => ((List.Nodup.mem_erase_iff hinv.1).1 h).1 rfl

theorem quota_other (n : Int) (st : MwSt) (now : Int) (m : ClientMsg)
    (h1 : ∀ sub fs, m ≠ .req sub fs) (h2 : ∀ sub, m ≠ .close sub) :
    (Mw.maxSubs n).client st now m = (st, .fwd m) := by
  cases m with
  | req sub fs => exact absurd rfl (h1 sub fs)
  | close sub => exact absurd rfl (h2 sub)
  | _ => rfl

theorem quota_step_inv (n : Int) (st : MwSt) (now : Int) (m : ClientMsg) (hinv : QuotaInv n st) :
    QuotaInv n ((Mw.maxSubs n).client st now m).1 := by
  cases m with
  | req sub fs =>
    by_cases h : sub ∈ st.subs ∨ (st.subs.length : Int) < n
    · rw [(quota_req n st now sub fs hinv).1 h]
      by_cases hm : sub ∈ st.subs
      · simpa [hm] using hinv
      · have := h.resolve_left hm
        rw [if_neg hm]
        exact ⟨List.nodup_cons.2 ⟨hm, hinv.1⟩, by simp only [List.length_cons]; omega⟩
    · rw [(quota_req n st now sub fs hinv).2 h]; exact hinv
  | close sub =>
    have := List.length_erase_le (a := sub) (l := st.subs)
    exact ⟨hinv.1.erase _, Int.le_trans (Int.ofNat_le.2 this) hinv.2⟩
  | _ => exact hinv

/-- the quota's state after the client messages `ms` (it does not read the clock: `now` is 0) -/
def runQuota (n : Int) : MwSt → List ClientMsg → MwSt
  | st, [] => st
  | st, m :: ms => runQuota n ((Mw.maxSubs n).client st 0 m).1 ms

/-- at every moment at most `n` distinct subscription ids are open downstream -/
theorem quota_never_exceeded (n : Int) (hn : 1 ≤ n) (ms : List ClientMsg) :
    QuotaInv n (runQuota n {} ms) := by
  suffices h : ∀ st, QuotaInv n st → QuotaInv n (runQuota n st ms) from h {} (quota_inv_init n (by omega))
  induction ms with
  | nil => intro st h; exact h
  | cons m ms ih => intro st h; exact ih _ (quota_step_inv n st 0 m h)

/-- `specClient` is the property's rule as written down for the monitor: from equal open sets the model and the spec take
    the same decision and reach equal open sets, hence along every history. -/
theorem quota_refines_spec (n : Int) (st : MwSt) (ss : SpecSt) (now : Int) (m : ClientMsg)
    (hinv : QuotaInv n st) (heq : st.subs = ss.openSubs) :
    ((Mw.maxSubs n).client st now m).1.subs = (specClient (.maxSubs n) ss now m).1.openSubs ∧
    ((specClient (.maxSubs n) ss now m).2 = true ↔ ((Mw.maxSubs n).client st now m).2 = .fwd m) := by
  cases m with
  | req sub fs =>
    by_cases hc : sub ∈ st.subs ∨ (st.subs.length : Int) < n
    · rw [(quota_req n st now sub fs hinv).1 hc]
      simp [specClient, ← heq, hc]
    · rw [(quota_req n st now sub fs hinv).2 hc]
      simp [specClient, ← heq, hc]
  | close sub =>
    rw [(quota_close n st now sub hinv).1]
    simp [specClient, heq]
  | _ => exact ⟨heq, iff_of_true rfl rfl⟩

/-- distinct ids of a history by most recent occurrence (most recent first) -/
def recency (hist : List String) : List String := hist.foldl (fun l id => id :: l.erase id) []

/-- the last `size` distinct ids seen -/
def window (size : Nat) (hist : List String) : List String := (recency hist).take size

theorem recency_concat (hist : List String) (id : String) :
    recency (hist ++ [id]) = id :: (recency hist).erase id := by
  simp [recency]

theorem mem_touch (l : List String) (x id : String) : id ∈ x :: l.erase x ↔ id = x ∨ id ∈ l := by
  by_cases h : id = x <;> simp [h, List.mem_erase_of_ne]

theorem mem_recency (hist : List String) (id : String) : id ∈ recency hist ↔ id ∈ hist := by
  suffices h : ∀ acc, id ∈ hist.foldl (fun l x => x :: l.erase x) acc ↔ id ∈ acc ∨ id ∈ hist by
    simpa [recency] using h []
  induction hist with
  | nil => simp
  | cons x xs ih => intro acc; rw [List.foldl_cons, ih, mem_touch, List.mem_cons, or_assoc, or_left_comm]

theorem take_erase_take (id : String) : ∀ (D : List String) (k : Nat),
    ((D.take (k + 1)).erase id).take k = (D.erase id).take k
  | [], _ => by simp
  | d :: D, k => by
    rw [List.take_succ_cons]
    by_cases hd : d = id
    · simp [hd, List.take_take]
    · rw [List.erase_cons_tail (by simpa using hd), List.erase_cons_tail (by simpa using hd)]
      cases k with
      | zero => rfl
      | succ k => rw [List.take_succ_cons, List.take_succ_cons, take_erase_take id D k]

/-- the state of the model LRU after "Get, and Add on a miss" (both unique filters do exactly this) -/
def lruTouch (size : Nat) (l : List String) (id : String) : List String × Bool :=
  let (l', found) := lruGet l id
  if found then (l', true) else (lruAdd size l' id, false)

theorem lruTouch_eq (size : Nat) (l : List String) (id : String) :
    lruTouch size l id =
      (if l.contains id then id :: l.erase id else (id :: l).take size, l.contains id) := by
  unfold lruTouch lruGet lruAdd
  by_cases hm : id ∈ l <;> simp [hm]

theorem lruTouch_fst (k : Nat) (l : List String) (hl : l.length ≤ k + 1) (id : String) :
    (lruTouch (k + 1) l id).1 = id :: (l.erase id).take k := by
  rw [lruTouch_eq]
  by_cases h : id ∈ l
  · have : (l.erase id).length ≤ k := by rw [List.length_erase_of_mem h]; omega
    simp [h, List.take_of_length_le this]
  · simp [h, List.erase_of_not_mem h]

theorem window_concat (k : Nat) (hist : List String) (id : String) :
    window (k + 1) (hist ++ [id]) = (lruTouch (k + 1) (window (k + 1) hist) id).1 := by
  unfold window
  rw [lruTouch_fst k _ (List.length_take_le ..), recency_concat, List.take_succ_cons, take_erase_take]

/-- the ids fed one by one to the LRU of a unique filter: its final state and, per id, whether it was found -/
def feedIds (size : Nat) : List String → List String → List String × List Bool
  | l, [] => (l, [])
  | l, id :: ids =>
    let (l', dup) := lruTouch size l id
    let (l'', ds) := feedIds size l' ids
    (l'', dup :: ds)

/-- After any sequence of ids the LRU holds exactly the last `size` distinct ids seen, and each id is judged a duplicate iff
    it is in the window at its turn.  `seen`: what was fed before (`[]` on a fresh connection). -/
theorem lru_is_window (size : Nat) (hs : 1 ≤ size) (hist : List String) :
    ∀ (seen : List String) (l : List String), l = window size seen →
      (feedIds size l hist).1 = window size (seen ++ hist) ∧
      ∀ i (h : i < hist.length), (feedIds size l hist).2[i]? =
        some ((window size (seen ++ hist.take i)).contains hist[i]) := by
  obtain ⟨k, rfl⟩ : ∃ k, size = k + 1 := ⟨size - 1, by omega⟩
  induction hist with
  | nil => intro seen l hl; simp [feedIds, hl]
  | cons id ids ih =>
    intro seen l hl
    obtain ⟨ih1, ih2⟩ := ih (seen ++ [id]) (lruTouch (k + 1) l id).1 (hl ▸ (window_concat k seen id).symm)
    simp only [feedIds]
    constructor
    · simpa [List.append_assoc] using ih1
    · intro i hi
      cases i with
      | zero => simp [lruTouch_eq, hl]
      | succ i => simpa [List.append_assoc] using ih2 i (by simpa using hi)

theorem recv_unique_event (size : Nat) (st : MwSt) (now : Int) (e : Event) :
    (Mw.recvUnique size).client st now (.event e) =
      ({ st with lru := (lruTouch size st.lru e.id).1 },
        if st.lru.contains e.id then .reject (.ok e.id false Gen.recvUniquePrefix Gen.recvUniqueMsg)
        else .fwd (.event e)) := by
  by_cases h : e.id ∈ st.lru <;> simp [Mw.client, lruTouch, lruGet, h, Gen.recvUniqueReject]

theorem send_unique_event (size : Nat) (st : MwSt) (sub : String) (e : Event) :
    (Mw.sendUnique size).server st (.event sub e) =
      ({ st with lru := (lruTouch size st.lru e.id).1 },
        if st.lru.contains e.id then none else some (.event sub e)) := by
  by_cases h : e.id ∈ st.lru <;> simp [Mw.server, lruTouch, lruGet, h, Gen.sendUniqueDrop]

/-- `st.lru` is the window (`lru_is_window`); the rejecting OK carries the `duplicate:` prefix -/
theorem recv_unique_step (size : Nat) (st : MwSt) (now : Int) (e : Event) :
    (st.lru.contains e.id = true →
      ∃ txt, (Mw.recvUnique size).client st now (.event e) =
        ({ st with lru := (lruTouch size st.lru e.id).1 }, .reject (.ok e.id false Gen.prefixDuplicate txt))) ∧
    (st.lru.contains e.id = false →
      (Mw.recvUnique size).client st now (.event e) =
        ({ st with lru := (lruTouch size st.lru e.id).1 }, .fwd (.event e))) := by
  rw [recv_unique_event]
  exact ⟨fun h => ⟨Gen.recvUniqueMsg, by rw [h]; rfl⟩, fun h => by rw [h]; rfl⟩

theorem send_unique_step (size : Nat) (st : MwSt) (sub : String) (e : Event) :
    (st.lru.contains e.id = true →
      (Mw.sendUnique size).server st (.event sub e) = ({ st with lru := (lruTouch size st.lru e.id).1 }, none)) ∧
    (st.lru.contains e.id = false →
      (Mw.sendUnique size).server st (.event sub e) =
        ({ st with lru := (lruTouch size st.lru e.id).1 }, some (.event sub e))) := by
  rw [send_unique_event]
  exact ⟨fun h => by rw [h]; rfl, fun h => by rw [h]; rfl⟩

/-- the property's "never rejects an id it has not seen" -/
theorem window_subset_seen (size : Nat) (hist : List String) : ∀ id ∈ window size hist, id ∈ hist :=
  fun id h => (mem_recency hist id).1 (List.mem_of_mem_take h)

theorem window_length_le (size : Nat) (hist : List String) : (window size hist).length ≤ size :=
  List.length_take_le ..

/-- the sessions of one relay: session number and that session's middleware stack with its states -/
abbrev Sys := List (Nat × List (Mw × MwSt))

def sysClient (sys : Sys) (sid : Nat) (now : Int) (m : ClientMsg) : Sys :=
  sys.map fun (s, stack) => if s = sid then (s, (chainClient stack now m).1) else (s, stack)

/-- the property's "never leaks between connections" as far as the model says it: a client message on session `a` leaves
    the entry of every other session in `sys` as it was (`sysClient` steps the stack of one session only) -/
theorem sessions_independent (sys : Sys) (a b : Nat) (hab : a ≠ b) (now : Int) (m : ClientMsg)
    (stack : List (Mw × MwSt)) (hb : (b, stack) ∈ sys) : (b, stack) ∈ sysClient sys a now m := by
  unfold sysClient
  refine List.mem_map.2 ⟨(b, stack), hb, ?_⟩
  simp [Ne.symm hab]

example : QuotaInv 2 { subs := ["a", "b"] } := by
  constructor
  · decide
  · decide

example : window 2 ["a", "b", "a", "c"] = ["c", "a"] := by decide
example : (feedIds 2 [] ["a", "b", "a", "c", "a"]).2 = [false, false, true, false, true] := by decide

/-- the one-sided middlewares hand the other direction over untouched (source text, regenerated) -/
theorem pass_through_pinned : passThroughActual = passThroughExpected := by rfl

theorem server_inert (mw : Mw) (h : ∀ size, mw ≠ .sendUnique size) (st : MwSt) (m : ServerMsg) :
    mw.server st m = (st, some m) := by
  cases mw with
  | sendUnique size => exact absurd rfl (h size)
  | _ => rfl

theorem recvUnique_server_inert (size : Nat) (st : MwSt) (m : ServerMsg) :
    (Mw.recvUnique size).server st m = (st, some m) :=
  server_inert (.recvUnique size) nofun st m

theorem maxSubs_server_inert (n : Int) (st : MwSt) (m : ServerMsg) :
    (Mw.maxSubs n).server st m = (st, some m) :=
  server_inert (.maxSubs n) nofun st m

/-- the state after an interleaving of client (`inl`) and server (`inr`) messages -/
def runMixed (mw : Mw) (now : Int) : MwSt → List (Sum ClientMsg ServerMsg) → MwSt
  | st, [] => st
  | st, .inl c :: rest => runMixed mw now (mw.client st now c).1 rest
  | st, .inr s :: rest => runMixed mw now (mw.server st s).1 rest

def clientsOf : List (Sum ClientMsg ServerMsg) → List ClientMsg
  | [] => []
  | .inl c :: rest => c :: clientsOf rest
  | .inr _ :: rest => clientsOf rest

/-- Whatever the downstream handler answers, and whenever, the receive-side filter and the quota decide every client message
    as if the server had been silent (seed C18-I breaks this). -/
theorem client_state_ignores_server (mw : Mw) (h : (∃ size, mw = .recvUnique size) ∨ (∃ n, mw = .maxSubs n))
    (now : Int) (st : MwSt) (hist : List (Sum ClientMsg ServerMsg)) :
    runMixed mw now st hist = runMixed mw now st ((clientsOf hist).map Sum.inl) := by
  induction hist generalizing st with
  | nil => rfl
  | cons x rest ih =>
    cases x with
    | inl c => simp only [runMixed, clientsOf, List.map_cons]; exact ih _
    | inr s =>
      have : mw.server st s = (st, some s) := server_inert mw (by rcases h with ⟨_, rfl⟩ | ⟨_, rfl⟩ <;> nofun) st s
      simp only [runMixed, clientsOf, this]
      exact ih _

end Moc.C18
