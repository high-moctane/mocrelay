/-
  C02 — Filter matching equals the NIP-01 predicate for every event and filter.

  The lemmas about the single tests of `Match` and about the monitor are in C02Lemmas.lean.  The model `matchOne`,
  `matchAny`, `limitMatchAll`, `doneAll` (MocModel/Matcher.lean) mirrors event_matcher.go;
  its comparisons are regenerated from the Go source into `Moc.Gen` on every run, its hand-written loop structure is
  compared with the real matcher at run time.  Everything stated here is proved, for filters and events of any size.
-/
import MocProps.C02Lemmas

namespace Moc.C02

/-- events behind the admission gate have no empty tag (`validTag`) -/
def TagsNonEmpty (e : Event) : Prop := ∀ t ∈ e.tags, t ≠ []

/-- `hwf`: the `#x` names are distinct, as the keys of a Go map are; `hne`: see `matchOne_panics_on_empty_tag`. -/
theorem matchOne_eq_spec (f : Filter) (e : Event) (hwf : f.WF) (hne : TagsNonEmpty e) :
    matchOne f e = .ok (nip01MatchB f e) := by
  obtain ⟨r, hr, hT⟩ := tags_step f e hwf hne
  unfold matchOne nip01MatchB
  simp only [Gen.idsReject, Gen.kindsReject, Gen.authorsReject, listed_step, since_step, until_step, hr, hT,
    Gen.matchFinal]
  -- every test is now the negation of its conjunct; `reject_step` folds the cascade into their conjunction
  cases tagsOkB f.tags e
  · simp only [Bool.not_false, reject_step, Bool.and_false, Bool.false_and]
  · simp only [Bool.not_true, reject_step, Bool.and_true]
    -- the same conjunction; `Match` tests the kinds before the authors
    ac_rfl

/-- the excluded point: an empty tag makes `Match` panic (`tag[0]`), as the Go code does.
    `Event.Valid` rejects such events, so they never reach a matcher behind the gate. -/
theorem matchOne_panics_on_empty_tag :
    matchOne { tags := some [("e", ["x"])] }
      { id := "", pubkey := "", createdAt := 0, kind := 1, tags := [[]], content := "", sig := "" }
      = .panic := by decide

theorem matchOne_iff (f : Filter) (e : Event) (hwf : f.WF) (hne : TagsNonEmpty e) :
    matchOne f e = .ok true ↔ nip01Match f e := by
  rw [matchOne_eq_spec f e hwf hne, ← nip01MatchB_iff, Res.ok.injEq]

/-- a fact about the predicate; `matchOne_iff` carries it to `Match` -/
theorem empty_list_matches_nothing (f : Filter) (e : Event)
    (h : f.ids = some [] ∨ f.authors = some [] ∨ f.kinds = some [] ∨
         (∃ l k, f.tags = some l ∧ (k, []) ∈ l)) :
    ¬ nip01Match f e := by
  rintro ⟨h1, h2, h3, h4, _, _⟩
  rcases h with h | h | h | ⟨l, k, hl, hk⟩
  · exact List.not_mem_nil (h1 _ h)
  · exact List.not_mem_nil (h2 _ h)
  · exact List.not_mem_nil (h3 _ h)
  · obtain ⟨t, _, _, hv⟩ := h4 l hl _ hk
    exact List.not_mem_nil hv

theorem empty_filter_matches_all (e : Event) : nip01Match {} e := by
  refine ⟨?_, ?_, ?_, ?_, ?_, ?_⟩ <;> intro _ h <;> cases h

theorem matchAny_eq_spec (fs : List Filter) (e : Event) (hwf : ∀ f ∈ fs, f.WF) (hne : TagsNonEmpty e) :
    matchAny fs e = .ok (nip01MatchAnyB fs e) := by
  induction fs with
  | nil => rfl
  | cons f fs ih =>
    have h1 := matchOne_eq_spec f e (hwf f (by simp)) hne
    have h2 := ih (fun g hg => hwf g (List.mem_cons_of_mem _ hg))
    simp only [matchAny, h1, h2, nip01MatchAnyB, List.any_cons]

theorem nip01MatchAnyB_iff (fs : List Filter) (e : Event) :
    nip01MatchAnyB fs e = true ↔ nip01MatchAny fs e := by
  simp [nip01MatchAnyB, nip01MatchAny, List.any_eq_true, nip01MatchB_iff]

/-- the property's "sequence of events fed to a limit-counting matcher": `LimitMatch` of every matcher on each -/
def feed : List LMatcher → List Event → Res (List LMatcher)
  | ms, [] => .ok ms
  | ms, e :: es =>
    match limitMatchAll ms e with
    | .panic => .panic
    | .ok (_, ms') => feed ms' es

def matchCount (f : Filter) (es : List Event) : Nat := es.countP (nip01MatchB f ·)

theorem limitMatchAll_spec (ms : List LMatcher) (e : Event) (hwf : ∀ m ∈ ms, m.f.WF)
    (hne : TagsNonEmpty e) :
    limitMatchAll ms e = .ok (ms.any (fun m => nip01MatchB m.f e),
      ms.map fun m => { m with cnt := m.cnt + (if nip01MatchB m.f e then 1 else 0) }) := by
  induction ms with
  | nil => rfl
  | cons m ms ih =>
    have h1 := matchOne_eq_spec m.f e (hwf m (by simp)) hne
    have h2 := ih (fun g hg => hwf g (List.mem_cons_of_mem _ hg))
    simp only [limitMatchAll, LMatcher.limitMatch, h1, h2, Gen.limitMatchCounts, List.any_cons, List.map_cons]
    cases nip01MatchB m.f e <;> simp

theorem limitMatchAll_verdict (ms : List LMatcher) (e : Event) (hwf : ∀ m ∈ ms, m.f.WF)
    (hne : TagsNonEmpty e) :
    ∃ ms', limitMatchAll ms e = .ok (nip01MatchAnyB (ms.map (·.f)) e, ms') := by
  rw [limitMatchAll_spec ms e hwf hne, nip01MatchAnyB, List.any_map]
  exact ⟨_, rfl⟩

theorem feed_spec (ms : List LMatcher) (es : List Event) (hwf : ∀ m ∈ ms, m.f.WF)
    (hne : ∀ e ∈ es, TagsNonEmpty e) :
    feed ms es = .ok (ms.map fun m => { m with cnt := m.cnt + matchCount m.f es }) := by
  induction es generalizing ms with
  | nil => simp [feed, matchCount]
  | cons e es ih =>
    have h1 := limitMatchAll_spec ms e hwf (hne e (by simp))
    simp only [feed, h1]
    rw [ih]
    · simp only [List.map_map]
      congr 1
      apply List.map_congr_left
      intro m _
      simp only [Function.comp, matchCount, List.countP_cons]
      -- the counters: `cnt + b + ↑n` against `cnt + ↑(n + b)`, `b` being 1 when `e` matches and 0 otherwise
      refine congrArg (LMatcher.mk m.f) ?_
      rw [Int.natCast_add, apply_ite (Nat.cast (R := Int)), Int.natCast_one, Int.natCast_zero, Int.add_assoc]
      exact congrArg _ (Int.add_comm ..)
    · simpa only [List.forall_mem_map] using hwf
    · intro e' he'; exact hne e' (List.mem_cons_of_mem _ he')

theorem done_iff_limit (m : LMatcher) : m.done = true ↔ ∃ n : Int, m.f.limit = some n ∧ n ≤ m.cnt := by
  cases h : m.f.limit <;> simp [LMatcher.done, Gen.limitDone, h]

theorem done_iff (fs : List Filter) (es : List Event) (hwf : ∀ f ∈ fs, f.WF)
    (hne : ∀ e ∈ es, TagsNonEmpty e) :
    ∃ ms, feed (newMatchers fs) es = .ok ms ∧
      (doneAll ms = true ↔ ∀ f ∈ fs, ∃ n : Int, f.limit = some n ∧ n ≤ matchCount f es) := by
  refine ⟨_, feed_spec (newMatchers fs) es (by simpa only [newMatchers, List.forall_mem_map] using hwf) hne, ?_⟩
  simp only [doneAll, newMatchers, List.map_map, List.all_map, List.all_eq_true, Function.comp_apply, Int.zero_add,
    done_iff_limit]

theorem done_nil : doneAll (newMatchers []) = true := rfl

-- the hypotheses of `matchOne_eq_spec` can be met

def exFilter : Filter := { kinds := some [1, 7], tags := some [("e", ["aa", "bb"]), ("p", ["cc"])], since := some 10, limit := some 2 }
def exEvent : Event :=
  { id := "i1", pubkey := "pk", createdAt := 12, kind := 7,
    tags := [["e", "zz"], ["p", "cc", "relay"], ["e", "bb"], ["t"]], content := "", sig := "" }

example : exFilter.WF ∧ TagsNonEmpty exEvent ∧ matchOne exFilter exEvent = .ok true := by
  refine ⟨by decide, by unfold TagsNonEmpty; decide, by decide⟩

/-- the multi-filter folds and the counting step of the source are the ones the model follows (evaluation order
    included: no short-circuit skips a matcher's `LimitMatch`) -/
theorem matchers_source_pinned : matchersActualSource = matchersExpectedSource := by rfl

end Moc.C02
