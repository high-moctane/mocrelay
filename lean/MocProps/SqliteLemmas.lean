/- For C06, C14 and the insert worker of C16, on the table model of MocModel/Sqlite.lean: what the statements of one
   event (`Db.insertOne`) do to the tables, the condition `Settled` under which they do nothing and which an inserted
   event keeps from then on, and induction over a history of events. -/
import MocModel.Sqlite
namespace Moc.C14

/-- the upsert of `p` would affect no row (`affected == 0`), so nothing else is executed for `p` (`settled_noop`) -/
def Settled (db : Db) (p : Params) : Prop :=
  ∃ old, db.events.find? (fun r => r.key == p.row.key) = some old ∧ upsertReplaces old p.row = false

/-- what "ids determine events" gives for rows -/
def Coherent (rows : List ERow) : Prop := ∀ r ∈ rows, ∀ r' ∈ rows, r.id = r'.id → r.createdAt = r'.createdAt

theorem upsertReplaces_lt {old new : ERow} (h : upsertReplaces old new = true) : old.createdAt < new.createdAt := by
  simp only [upsertReplaces, Bool.and_eq_true, decide_eq_true_eq] at h
  exact h.2

theorem upsertReplaces_of_le {old new : ERow} (h : new.createdAt ≤ old.createdAt) : upsertReplaces old new = false := by
  rw [upsertReplaces, decide_eq_false (Int.not_lt.2 h), Bool.and_false]

theorem upsertReplaces_of_id {old new : ERow} (h : old.id = new.id) : upsertReplaces old new = false := by
  simp [upsertReplaces, h]

/-- the kind test looks at the stored row only, so it cancels between an accepted and a refused candidate -/
theorem upsertReplaces_refused {old p q : ERow} (hq : upsertReplaces old q = true) (hp : upsertReplaces old p = false) :
    old.id = p.id ∨ p.createdAt ≤ old.createdAt := by
  unfold upsertReplaces at hq hp
  simp only [Bool.and_eq_true] at hq
  rw [hq.1.2, Bool.and_true] at hp   -- `hq.1.2`: the kind test of `old`, the same term in `hp`
  by_cases hid : old.id = p.id
  · exact .inl hid
  · exact .inr (by simpa [hid] using hp)

/-- the three ways the statements of one event can go: `affected == 0`, a fresh key, a displaced version -/
theorem insertOne_cases (db : Db) (p : Params) :
    (Settled db p ∧ db.insertOne p = db) ∨
    (db.events.find? (fun r => r.key == p.row.key) = none ∧
      db.insertOne p =
        { events := db.events ++ [p.row], payloads := db.payloads ++ [(p.row.key, p.payload)],
          tags := db.tags ++ p.tagRows, delKeys := p.delKeys.foldl insertSet db.delKeys,
          delIds := p.delIds.foldl insertSet db.delIds }) ∨
    (∃ old, db.events.find? (fun r => r.key == p.row.key) = some old ∧ upsertReplaces old p.row = true ∧
      db.insertOne p =
        { events := db.events.map (fun r => if r.key == p.row.key then p.row else r),
          payloads := db.payloads.filter (fun q => q.1 != p.row.key) ++ [(p.row.key, p.payload)],
          tags := db.tags.filter (fun q => q.2.2 != p.row.key) ++ p.tagRows,
          delKeys := p.delKeys.foldl insertSet db.delKeys, delIds := p.delIds.foldl insertSet db.delIds }) := by
  unfold Db.insertOne
  cases hf : db.events.find? (fun r => r.key == p.row.key) with
  | none => exact .inr (.inl ⟨rfl, rfl⟩)
  | some old =>
    cases hr : upsertReplaces old p.row with
    | true => exact .inr (.inr ⟨old, rfl, hr, if_pos hr⟩)
    | false => exact .inl ⟨⟨old, hf, hr⟩, if_neg (by simp [hr])⟩

theorem settled_noop (db : Db) (p : Params) (h : Settled db p) : db.insertOne p = db := by
  obtain ⟨old, hf, hn⟩ := h
  -- read off the definition: from `insertOne_cases` the other two cases would have to be refuted one by one
  simp [Db.insertOne, hf, hn]

theorem key_replace (new r : ERow) : (if r.key == new.key then new else r).key = r.key := by
  by_cases h : (r.key == new.key) = true
  · rw [if_pos h, beq_iff_eq.1 h]
  · rw [if_neg h]

theorem find_replace (l : List ERow) (new : ERow) (k : SKey) :
    (l.map fun r => if r.key == new.key then new else r).find? (fun r => r.key == k) =
      (l.find? fun r => r.key == k).map fun r => if r.key == new.key then new else r := by
  rw [List.find?_map]
  congr 2
  funext r
  simp only [Function.comp, key_replace]

theorem find_replace_same {l : List ERow} {new old : ERow} (h : l.find? (fun r => r.key == new.key) = some old) :
    (l.map fun r => if r.key == new.key then new else r).find? (fun r => r.key == new.key) = some new := by
  rw [find_replace, h, Option.map_some, if_pos (List.find?_some h)]

theorem find_replace_other (l : List ERow) {new : ERow} {k : SKey} (hk : k ≠ new.key) :
    (l.map fun r => if r.key == new.key then new else r).find? (fun r => r.key == k) =
      l.find? (fun r => r.key == k) := by
  rw [find_replace]
  cases h : l.find? (fun r => r.key == k) with
  | none => rfl
  | some x =>
    have hx : x.key = k := by simpa using List.find?_some h
    rw [Option.map_some, if_neg (by simpa [hx] using hk)]

theorem mem_replace {l : List ERow} {new old r : ERow} (h : l.find? (fun r => r.key == new.key) = some old) :
    r ∈ l.map (fun r => if r.key == new.key then new else r) ↔ (r ∈ l ∧ r.key ≠ new.key) ∨ r = new := by
  rw [List.mem_map]
  constructor
  · rintro ⟨x, hx, rfl⟩
    by_cases hk : (x.key == new.key) = true
    · exact .inr (if_pos hk)
    · rw [if_neg hk]
      exact .inl ⟨hx, by simpa using hk⟩
  · rintro (⟨hr, hne⟩ | rfl)
    · exact ⟨r, hr, if_neg (by simpa using hne)⟩
    · exact ⟨old, List.mem_of_find?_eq_some h, if_pos (List.find?_some h)⟩

theorem insertOne_events_source (db : Db) (q : Params) (r : ERow) (h : r ∈ (db.insertOne q).events) :
    r ∈ db.events ∨ r = q.row := by
  rcases insertOne_cases db q with ⟨_, e⟩ | ⟨_, e⟩ | ⟨old, hf, _, e⟩ <;> rw [e] at h
  · exact .inl h
  · simpa using h
  · exact ((mem_replace hf).1 h).imp_left And.left

theorem settled_after (db : Db) (p : Params) : Settled (db.insertOne p) p := by
  rcases insertOne_cases db p with ⟨hs, e⟩ | ⟨hf, e⟩ | ⟨old, hf, _, e⟩ <;> rw [e]
  · exact hs
  · exact ⟨p.row, by simp [List.find?_append, hf], upsertReplaces_of_id rfl⟩
  · exact ⟨p.row, find_replace_same hf, upsertReplaces_of_id rfl⟩

/-- a version that `q` displaces is older than `q`'s, so what could not displace it cannot displace `q`'s either;
    `hcoh` is for the stored version that is `p` itself -/
theorem settled_preserved (db : Db) (p q : Params) (hs : Settled db p)
    (hcoh : ∀ r ∈ db.events, r.id = p.row.id → r.createdAt = p.row.createdAt) :
    Settled (db.insertOne q) p := by
  obtain ⟨old, hfo, hno⟩ := hs
  rcases insertOne_cases db q with ⟨_, e⟩ | ⟨_, e⟩ | ⟨oq, hf, hr, e⟩ <;> rw [e]
  · exact ⟨old, hfo, hno⟩
  · exact ⟨old, by rw [List.find?_append, hfo]; rfl, hno⟩
  · by_cases hk : p.row.key = q.row.key
    · rw [hk] at hfo
      obtain rfl : old = oq := Option.some.inj (hfo.symm.trans hf)
      refine ⟨q.row, hk ▸ find_replace_same hf, upsertReplaces_of_le ?_⟩
      have hlt := upsertReplaces_lt hr
      rcases upsertReplaces_refused hr hno with hid | hle
      · exact hcoh old (List.mem_of_find?_eq_some hfo) hid ▸ Int.le_of_lt hlt
      · exact Int.le_trans hle (Int.le_of_lt hlt)
    · exact ⟨old, (find_replace_other _ hk).trans hfo, hno⟩

/-- induction over a left fold along the prefixes of the list, the whole list in view: hypotheses about `all`
    need not be cut down to the prefix, and the state reached is literally the fold of the prefix -/
theorem foldl_prefix_induction {α β} (f : β → α → β) (b0 : β) (P : List α → β → Prop) (all : List α)
    (h0 : P [] b0)
    (step : ∀ done a rest, done ++ a :: rest = all → P done (done.foldl f b0) →
      P (done ++ [a]) (f (done.foldl f b0) a)) :
    P all (all.foldl f b0) := by
  suffices ∀ todo done, done ++ todo = all → P done (done.foldl f b0) → P all (all.foldl f b0) from
    this all [] rfl h0
  intro todo
  induction todo with
  | nil => intro done hd h; rwa [← hd, List.append_nil]
  | cons a rest ih =>
    intro done hd h
    refine ih (done ++ [a]) (by simpa using hd) ?_
    rw [List.foldl_append]
    exact step done a rest hd h

/-- where the entries of a table `g` come from, over a history: from the same for one event (`hstep`) -/
theorem fold_source {γ} (g : Db → List γ) (S : Params → γ → Prop)
    (hstep : ∀ db q x, x ∈ g (db.insertOne q) → x ∈ g db ∨ S q x) (qs : List Params) (db : Db) (x : γ) :
    x ∈ g (qs.foldl Db.insertOne db) → x ∈ g db ∨ ∃ q ∈ qs, S q x := by
  refine foldl_prefix_induction Db.insertOne db (fun done d => x ∈ g d → x ∈ g db ∨ ∃ q ∈ done, S q x) qs .inl ?_
  intro done q rest _ ih hx
  rcases hstep _ q x hx with hx | hs
  · exact (ih hx).imp_right fun ⟨q', hq', hs⟩ => ⟨q', List.mem_append_left _ hq', hs⟩
  · exact .inr ⟨q, by simp, hs⟩

theorem fold_events_source (qs : List Params) (db : Db) (r : ERow) (h : r ∈ (qs.foldl Db.insertOne db).events) :
    r ∈ db.events ∨ ∃ q ∈ qs, r = q.row :=
  fold_source Db.events (fun q r => r = q.row) insertOne_events_source qs db r h

theorem fold_noop (ps : List Params) (db : Db) (h : ∀ p ∈ ps, Settled db p) : ps.foldl Db.insertOne db = db :=
  foldl_prefix_induction Db.insertOne db (fun _ d => d = db) ps rfl fun done q rest hd hdb => by
    rw [hdb]
    exact settled_noop db q (h q (hd ▸ List.mem_append_right _ List.mem_cons_self))

theorem fold_settled (ps : List Params) (db : Db) (hcoh : Coherent (db.events ++ ps.map (·.row))) :
    ∀ p ∈ ps, Settled (ps.foldl Db.insertOne db) p := by
  refine foldl_prefix_induction Db.insertOne db (fun done d => ∀ p ∈ done, Settled d p) ps (by simp) ?_
  rintro done q rest rfl ih p hp
  rcases List.mem_append.1 hp with hp | hp
  · refine settled_preserved _ p q (ih p hp) fun r hr hid => hcoh r ?_ p.row ?_ hid
    · rcases fold_events_source _ _ r hr with h | ⟨q', hq', rfl⟩
      · exact List.mem_append_left _ h
      · exact List.mem_append_right _ (List.mem_map_of_mem (List.mem_append_left _ hq'))
    · exact List.mem_append_right _ (List.mem_map_of_mem (List.mem_append_left _ hp))
  · obtain rfl : p = q := by simpa using hp
    exact settled_after _ p

theorem insertBatch_again (db : Db) (evs evs' : List Event) (hsub : ∀ e ∈ evs', e ∈ evs)
    (hcoh : Coherent (db.events ++ (evs.filterMap buildParams).map (·.row))) :
    (db.insertBatch evs).insertBatch evs' = db.insertBatch evs := by
  refine fold_noop _ _ fun p hp => ?_
  obtain ⟨e, he, hb⟩ := List.mem_filterMap.1 hp
  exact fold_settled _ db hcoh p (List.mem_filterMap.2 ⟨e, hsub e he, hb⟩)

/-! `insertSet` is `on conflict do nothing` on the two tombstone tables -/

theorem mem_insertSet {α} [BEq α] [LawfulBEq α] (l : List α) (x y : α) : y ∈ insertSet l x ↔ y ∈ l ∨ y = x := by
  unfold insertSet
  by_cases h : l.contains x = true
  · rw [if_pos h]
    exact ⟨.inl, fun h' => h'.elim id fun e => e ▸ List.contains_iff_mem.1 h⟩
  · rw [if_neg h, List.mem_append, List.mem_singleton]

theorem mem_foldl_insertSet {α} [BEq α] [LawfulBEq α] (xs l : List α) (y : α) :
    y ∈ xs.foldl insertSet l ↔ y ∈ l ∨ y ∈ xs := by
  induction xs generalizing l with
  | nil => simp
  | cons x xs ih => simp only [List.foldl_cons, ih, mem_insertSet, List.mem_cons, or_assoc]

end Moc.C14
