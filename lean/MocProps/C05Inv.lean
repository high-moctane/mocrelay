/-
  C05, the reachable-state invariant: in every state reachable by insertions no retained event is named by a
  retained deletion request of its own author (`never_visible_with_own_deletion`), and the named events stay out
  while the request is retained (`deleted_stays_out`).  Invariant `Inv2` = distinct keys, no retained event blocked
  by the registry, every reference of a retained request registered; `add_inv2` carries it through `Add`
  (replace, register, delete referenced, evict), `delete_inv2` through `delete`.
-/
import MocProps.C04
import MocProps.C05
namespace Moc.C05
open Moc.CacheL Moc.C04

/-- the test by which `EventCache.Add` refuses `x`:
    `c.isDeleted(eventKey, event.Pubkey) || c.isDeleted(event.ID, event.Pubkey)` -/
def Blocked (c : Cache) (x : Event) : Bool := c.isDeleted (eventKey x) x.pubkey || c.isDeleted x.id x.pubkey

def NotBlocked (c : Cache) : Prop := ∀ x ∈ c.evs, Blocked c x = false

def RegComplete (c : Cache) : Prop := ∀ d ∈ c.evs, d.kind = 5 → ∀ k ∈ k5Refs d, (k, d.pubkey, d.id) ∈ c.deleted

/-- `nb`: no retained event is blocked; `rc`: the registry is complete (its converse, `RegSound`, is in C05Sound) -/
structure Inv2 (c : Cache) : Prop where
  keys : (c.evs.map eventKey).Nodup
  nb : NotBlocked c
  rc : RegComplete c

theorem blocked_iff (c : Cache) (x : Event) :
    Blocked c x = true ↔ ∃ t ∈ c.deleted, (t.1 = eventKey x ∨ t.1 = x.id) ∧ t.2.1 = x.pubkey := by
  simp only [Blocked, Bool.or_eq_true, isDeleted_iff]
  exact exists_or.symm.trans (exists_congr fun t => by rw [← and_or_left, ← or_and_right])

theorem blocked_mono (c c' : Cache) (h : ∀ t ∈ c'.deleted, t ∈ c.deleted) (x : Event)
    (hf : Blocked c x = false) : Blocked c' x = false := by
  refine Bool.eq_false_iff.2 fun hb => Bool.eq_false_iff.1 hf ?_
  obtain ⟨t, ht, r⟩ := (blocked_iff c' x).1 hb
  exact (blocked_iff c x).2 ⟨t, h t ht, r⟩

theorem blocked_addKind5 (c : Cache) (e x : Event) :
    Blocked (c.addKind5 e) x = true ↔ Blocked c x = true ∨ Names e x := by
  simp only [blocked_iff, addKind5_deleted_mem]
  constructor
  · rintro ⟨t, ht | ⟨hr, hp, _⟩, href, hpx⟩
    · exact Or.inl ⟨t, ht, href, hpx⟩
    · exact Or.inr ⟨hp.symm.trans hpx, href.elim (fun h => Or.inl (h ▸ hr)) fun h => Or.inr (h ▸ hr)⟩
  · rintro (⟨t, ht, r⟩ | ⟨hp, hr | hr⟩)
    · exact ⟨t, Or.inl ht, r⟩
    · exact ⟨(eventKey x, e.pubkey, e.id), Or.inr ⟨hr, rfl, rfl⟩, Or.inl rfl, hp⟩
    · exact ⟨(x.id, e.pubkey, e.id), Or.inr ⟨hr, rfl, rfl⟩, Or.inr rfl, hp⟩

theorem blocked_of_named (c : Cache) (hrc : RegComplete c) (x d : Event) (hd : d ∈ c.evs) (h5 : d.kind = 5)
    (hn : Names d x) : Blocked c x = true := by
  rw [blocked_iff]
  rcases hn.ref with hr | hr
  · exact ⟨_, hrc d hd h5 _ hr, Or.inl rfl, hn.author⟩
  · exact ⟨_, hrc d hd h5 _ hr, Or.inr rfl, hn.author⟩

theorem delete_keeps_registration (c : Cache) (k p : String) (hk : (c.evs.map eventKey).Nodup) (d : Event)
    (hd : d ∈ (c.delete k p).evs) (h5 : d.kind = 5) (t : String × String × String) (ht : t ∈ c.deleted)
    (htd : t.2.1 = d.pubkey ∧ t.2.2 = d.id) : t ∈ (c.delete k p).deleted := by
  refine (mem_delete_deleted c k p hk t).2 ⟨ht, fun d' hd' h5' _ hi _ => ?_⟩
  -- a request with the id of `d` is `d`
  rw [key_inj c hk d' d hd' (delete_mem c k p d hd) (by rw [eventKey_k5 d' h5', eventKey_k5 d h5, hi, htd.2])]
  exact hd

theorem delete_rc (c : Cache) (k p : String) (hk : (c.evs.map eventKey).Nodup) (h : RegComplete c) :
    RegComplete (c.delete k p) :=
  fun d hd h5 r hr =>
    delete_keeps_registration c k p hk d hd h5 _ (h d (delete_mem c k p d hd) h5 r hr) ⟨rfl, rfl⟩

theorem delete_inv2 (c : Cache) (k p : String) (h : Inv2 c) : Inv2 (c.delete k p) :=
  ⟨keys_nodup_delete c k p h.keys,
   fun x hx => blocked_mono c _ (delete_deleted_subset c k p h.keys) x (h.nb x (delete_mem c k p x hx)),
   delete_rc c k p h.keys h.rc⟩

/-- the new registrations block only events that `deleteByKind5` then removes -/
theorem process_inv2 (c1 : Cache) (e : Event) (hk : (c1.evs.map eventKey).Nodup) (hnb : NotBlocked c1)
    (hrc : RegComplete (c1.addKind5 e)) : Inv2 ((c1.addKind5 e).deleteByKind5 e) := by
  obtain ⟨p1, p2, p3⟩ := deleteByKind5_props
    (fun c' => (c'.evs.map eventKey).Nodup ∧ RegComplete c' ∧ ∀ t ∈ c'.deleted, t ∈ (c1.addKind5 e).deleted)
    (c1.addKind5 e) e
    (fun c' k hc' => ⟨keys_nodup_delete c' k _ hc'.1, delete_rc c' k _ hc'.1 hc'.2.1,
      fun t ht => hc'.2.2 t (delete_deleted_subset c' k _ hc'.1 t ht)⟩)
    ⟨hk, hrc, fun t ht => ht⟩
  refine ⟨p1, fun x hx => blocked_mono _ _ p3 x (Bool.eq_false_iff.2 fun hbx => ?_), p2⟩
  obtain ⟨hx1, hnn⟩ := (mem_deleteByKind5_evs (c1.addKind5 e) e hk x).1 hx
  rcases (blocked_addKind5 c1 e x).1 hbx with hb0 | hn
  · exact Bool.eq_false_iff.1 (hnb x hx1) hb0
  · exact hnn hn

theorem accept_inv2 (c0 : Cache) (e : Event) (h : Inv2 c0) (hfresh : ∀ x ∈ c0.evs, eventKey x ≠ eventKey e)
    (hb : Blocked c0 e = false) : Inv2 (process { c0 with evs := e :: c0.evs } e) := by
  have hk1 := keys_nodup_cons c0.evs e hfresh h.keys
  have hnb1 : NotBlocked { c0 with evs := e :: c0.evs } := by
    intro x hx
    rcases List.mem_cons.1 hx with rfl | hx
    · exact hb
    · exact h.nb x hx
  rcases process_cases { c0 with evs := e :: c0.evs } e with ⟨_, h'⟩ | ⟨h5, h'⟩ <;> rw [h']
  · refine process_inv2 _ e hk1 hnb1 fun d hd hd5 k hk => (addKind5_deleted_mem _ e _).2 ?_
    rcases List.mem_cons.1 hd with rfl | hd
    · exact Or.inr ⟨hk, rfl, rfl⟩
    · exact Or.inl (h.rc d hd hd5 k hk)
  · refine ⟨hk1, hnb1, fun d hd hd5 k hk => ?_⟩
    rcases List.mem_cons.1 hd with rfl | hd
    · exact absurd hd5 h5
    · exact h.rc d hd hd5 k hk

theorem add_inv2 (c : Cache) (e : Event) (h : Inv2 c) : Inv2 (c.add e).1 := by
  rcases add_cases c e with ⟨_, h'⟩ | ⟨_, _, h'⟩ | ⟨_, hb, _, c0, ⟨p, h0⟩, hev, h'⟩ <;> rw [h']
  · exact h
  · exact h
  · refine evict_props Inv2 delete_inv2 _ (accept_inv2 c0 e (h0 ▸ delete_inv2 _ _ _ h) (fun x hx => ?_) ?_)
    · rw [hev] at hx
      exact bne_iff_ne.1 (List.mem_filter.1 hx).2
    · exact blocked_mono c _ (h0 ▸ delete_deleted_subset _ _ _ h.keys) e hb

theorem inv2_empty (cap : Int) : Inv2 { cap := cap } :=
  ⟨List.nodup_nil, (fun x hx => by cases hx), (fun d hd => by cases hd)⟩

theorem run_inv2 (c : Cache) (es : List Event) (h : Inv2 c) : Inv2 (run c es) :=
  run_props Inv2 es (fun c e _ => add_inv2 c e) c h

theorem Inv2.never {c : Cache} (h : Inv2 c) (x d : Event) (hx : x ∈ c.evs) (hd : d ∈ c.evs) (h5 : d.kind = 5)
    (hn : Names d x) : False :=
  Bool.eq_false_iff.1 (h.nb x hx) (blocked_of_named c h.rc x d hd h5 hn)

/-- Also the third "in particular" clause of C15.  It holds whichever of the two arrived first. -/
theorem never_visible_with_own_deletion (cap : Int) (es : List Event) (x d : Event)
    (hx : x ∈ (run { cap := cap } es).evs) (hd : d ∈ (run { cap := cap } es).evs) (h5 : d.kind = 5)
    (hp : d.pubkey = x.pubkey) (href : eventKey x ∈ k5Refs d ∨ x.id ∈ k5Refs d) : False :=
  (run_inv2 { cap := cap } es (inv2_empty cap)).never x d hx hd h5 ⟨hp, href⟩

theorem deleted_stays_out (cap : Int) (es : List Event) (x d : Event)
    (hd : d ∈ (run { cap := cap } es).evs) (h5 : d.kind = 5) (hp : d.pubkey = x.pubkey)
    (href : eventKey x ∈ k5Refs d ∨ x.id ∈ k5Refs d) (hne : eventType x.kind ≠ .ephemeral) :
    (run { cap := cap } es).add x = (run { cap := cap } es, false) :=
  blocked_while_deletion_retained _ x hne (Bool.or_eq_true_iff.1
    (blocked_of_named _ (run_inv2 { cap := cap } es (inv2_empty cap)).rc x d hd h5 ⟨hp, href⟩))

end Moc.C05
