/-
  C15 — Shared stores are race-free and linearizable under concurrent sessions.

  Theorems here: (1) the linearization checker run on every recorded concurrent history is sound: an accepted
  witness IS a sequential execution of the model, in an order consistent with real time, that reproduces every
  recorded result (`witness_sound`); (2) every state the sequential model reaches satisfies the retention invariant,
  so a linearizable history never shows more than `capacity` events or an event that is not retained
  (`listing_within_capacity`).  The lock discipline of event_cache.go is in C15Locks.lean.  That `sync.RWMutex`
  under this discipline yields only linearizable, race-free histories is runtime-validated: every generated
  concurrent history is searched for a linearization and the race detector watches the run.
-/
import MocModel.Linearize
import MocProps.C03
import MocProps.C04
import MocProps.CacheOrder

namespace Moc.C15

/-- sequential execution of calls (by index) on the model, comparing each result with the recorded one -/
def replayOK (calls : List CCall) : List Nat → Cache → Bool
  | [], _ => true
  | i :: rest, c =>
    match calls[i]? with
    | none => false
    | some ci =>
      let (c', out) := applyOp c ci.op
      out == ci.out && replayOK calls rest c'

/-- the order never puts a call after one that was invoked only after it had returned -/
def respectsRealTime (calls : List CCall) : List Nat → Bool
  | [] => true
  | i :: rest =>
    (match calls[i]? with
     | none => false
     | some ci => rest.all (notBefore calls ci)) &&
    respectsRealTime calls rest

/-- `witnessValid.go` makes both tests on each call in one loop; `replayOK` and `respectsRealTime` are the two taken
    apart -/
theorem witnessGo_sound (calls : List CCall) : ∀ (order : List Nat) (c : Cache) (d : List Nat),
    witnessValid.go calls order c d = true → replayOK calls order c = true ∧ respectsRealTime calls order = true := by
  intro order
  induction order with
  | nil => intro c d _; exact ⟨rfl, rfl⟩
  | cons i rest ih =>
    intro c d h
    unfold witnessValid.go at h
    unfold replayOK respectsRealTime
    cases hi : calls[i]? with
    | none => rw [hi] at h; cases h
    | some ci =>
      simp only [hi, Bool.and_eq_true] at h ⊢
      obtain ⟨ih1, ih2⟩ := ih _ _ h.2
      exact ⟨⟨h.1.1, ih1⟩, h.1.2, ih2⟩

/-- The first two conjuncts make `order` an enumeration of all calls, each exactly once: `replayOK` fails on an index
    out of range. -/
theorem witness_sound (calls : List CCall) (order : List Nat) (c0 : Cache)
    (h : witnessValid calls order c0 = true) :
    order.length = calls.length ∧ order.eraseDups.length = order.length ∧
    replayOK calls order c0 = true ∧ respectsRealTime calls order = true := by
  unfold witnessValid at h
  simp only [Bool.and_eq_true, beq_iff_eq] at h
  exact ⟨h.1.1, h.1.2, witnessGo_sound calls order c0 [] h.2⟩

theorem listing_subset (c : Cache) (hne : ∀ e ∈ c.evs, C02.TagsNonEmpty e) :
    ∃ l, c.find id [{}] = .ok l ∧ l.length ≤ c.evs.length ∧ ∀ x ∈ l, x ∈ c.evs := by
  rcases C03.find_cases c id [{}] with ⟨_, h⟩ | ⟨_, h⟩ <;> rw [h]
  · exact ⟨[], rfl, Nat.zero_le _, fun _ h => nomatch h⟩
  · -- the empty filter takes the scan path: a selection `r` of the tree, sorted again
    have hbt : ∀ x ∈ c.byTime, x ∈ c.evs := fun _ => C03.mem_of_mem_sortOrd
    obtain ⟨r, hr, hsub, _⟩ := C03.scanLoop_sublist {} (fun _ hl => nomatch hl) c.byTime fun e he => hne e (hbt e he)
    rw [List.foldl_cons, List.foldl_nil, C03.findStep_ok (f := {}) ((if_pos rfl).trans hr)]
    exact ⟨_, rfl, Nat.le_trans (C03.length_sortOrd_le r) (Nat.le_trans hsub.length_le (C03.length_sortOrd_le c.evs)),
      fun x hx => hbt x (hsub.subset (C03.mem_of_mem_sortOrd hx))⟩

/-- C15's "in particular" clauses, for the match-everything listing.  Stated: at most `capacity` events, all retained;
    one version per address and no event beside a retained deletion request of its author naming it are then facts
    about the retained set (`C04.retention_all_histories`, `C05.never_visible_with_own_deletion`). -/
theorem listing_within_capacity (cap : Int) (hcap : 0 ≤ cap) (es : List Event)
    (hne : ∀ e ∈ es, C02.TagsNonEmpty e) :
    ∃ l, (C04.run { cap := cap } es).find id [{}] = .ok l ∧ (l.length : Int) ≤ cap ∧
      ∀ x ∈ l, x ∈ (C04.run { cap := cap } es).evs := by
  obtain ⟨hinv, hcapEq⟩ := C04.retention_all_histories cap hcap es
  obtain ⟨l, h, hlen, hsub⟩ := listing_subset (C04.run { cap := cap } es) fun e he =>
    hne e (C04.run_empty_subset cap es e he)
  exact ⟨l, h, hcapEq ▸ Int.le_trans (Int.ofNat_le.2 hlen) hinv.capOk, hsub⟩

end Moc.C15
