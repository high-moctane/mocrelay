/-
  C09, trace level: every EVENT gets exactly one OK over all histories and interleavings
  (`merged_event_exactly_once`).  The pending table of one event id is shown to be a run of the one-key machine of
  C09Table.lean on the projection of the session's trace (`ok_step` into `sim_run`), whose counting invariant gives the result.
-/
import MocModel.Merge
import MocProps.C09
namespace Moc.C09

def okRows (st : MergeSt) (X : String) : List (List (Option OKMsg)) := (alGet st.ok X).getD []

def projOK (X : String) : List MStep → List (TOp OKMsg)
  | [] => []
  | .client m :: tr =>
    (match m with
     | .event e => if e.id = X then [TOp.req] else []
     | _ => []) ++ projOK X tr
  | .child i msg :: tr =>
    (match msg with
     | .ok id acc pfx t => if id = X then [TOp.reply i { id := id, accepted := acc, text := pfx ++ t }] else []
     | _ => []) ++ projOK X tr

/-- how many times the client received something when a child's OK for id `X` arrived -/
def okEmits (X : String) : MergeSt → List MStep → Nat
  | _, [] => 0
  | st, .client m :: tr => okEmits X (st.client m) tr
  | st, .child i msg :: tr =>
    (match msg with
     | .ok id _ _ _ => if id = X then (outOf (st.child i msg).2).length else 0
     | _ => 0) + okEmits X (st.child i msg).1 tr

/-- the `hstep` of `sim_run` for the OK table -/
theorem ok_step (X : String) (st : MergeSt) (s : MStep) (tr : List MStep) (hn : 0 < st.n)
    (hlen : ∀ r ∈ okRows st X, r.length = st.n) :
    ∃ ops, projOK X (s :: tr) = ops ++ projOK X tr ∧ okRows (step st s) X = (runTbl st.n (okRows st X) ops).1 ∧
      okEmits X st (s :: tr) = (runTbl st.n (okRows st X) ops).2.length + okEmits X (step st s) tr := by
  cases s with
  | client m =>
    cases m with
    | event e =>
      obtain ⟨h1, h2⟩ := addRow_sim st.n st.ok e.id X
      exact ⟨_, rfl, h1, by rw [okRows, h2]; exact (Nat.zero_add _).symm⟩
    | _ => exact ⟨[], rfl, rfl, (Nat.zero_add _).symm⟩
  | child i msg =>
    have hok : okRows (step st (.child i msg)) X = _ := congrArg (okRows · X) (child_tables st i msg)
    cases msg with
    | ok id acc pfx t =>
      obtain ⟨h1, h2⟩ := reply_sim st.n hn st.ok id X i ⟨id, acc, pfx ++ t⟩ hlen joinOK joinOK_isSome
      refine ⟨if id = X then [.reply i ⟨id, acc, pfx ++ t⟩] else [], rfl, hok.trans h1, ?_⟩
      show (if id = X then (outOf (.ok (sendOK st i _).2)).length else 0) + _ = _
      rw [sendOK_eq]; exact congrArg (· + _) h2
    | _ => exact ⟨[], rfl, hok, rfl⟩

theorem okRows_run (X : String) (n : Nat) (hn : 0 < n) (tr : List MStep) :
    ∀ st : MergeSt, st.n = n → Inv n (okRows st X) → (∀ i m, MStep.child i m ∈ tr → i < n) →
      okRows (runMerge st tr).1 X = (runTbl n (okRows st X) (projOK X tr)).1 ∧
      okEmits X st tr = (runTbl n (okRows st X) (projOK X tr)).2.length := by
  -- of `Inv` only the row width is used, and the bound on the indices not at all (where it matters `Causal` has it)
  intro st hst hinv _
  subst hst
  exact sim_run (okRows · X) (projOK X) (okEmits X) rfl (fun _ => rfl) (ok_step X) tr st hn hinv.len

/-- C09 for EVENT, in a fresh session over `n ≥ 1` children, per event id `X`.  `hc`: the children answer an EVENT with id `X`
    only after the client submitted it; several in flight and repeated ids are allowed.  The clauses are those of
    `replies_exactly_once`; what each reply says: `joinOK_verdict`, `joinOK_reason`, `sendOK_out`. -/
theorem merged_event_exactly_once (n : Nat) (hn : 0 < n) (X : String) (tr : List MStep)
    (hidx : ∀ i m, MStep.child i m ∈ tr → i < n) (hc : Causal n 0 (fun _ => 0) (projOK X tr)) :
    okEmits X { n := n } tr ≤ reqs (projOK X tr) ∧
    (∀ j, j < n → okEmits X { n := n } tr ≤ replies j (projOK X tr)) ∧
    ((∀ j, j < n → replies j (projOK X tr) = reqs (projOK X tr)) →
      okEmits X { n := n } tr = reqs (projOK X tr) ∧ okRows (runMerge { n := n } tr).1 X = []) := by
  obtain ⟨h1, h2⟩ := okRows_run X n hn tr { n := n } rfl (inv_nil n) hidx
  rw [h1, h2]
  exact replies_exactly_once n hn (projOK X tr) hc

/-! non-vacuity: the same id submitted twice, two children, replies interleaved -/
example : Causal 2 0 (fun _ => 0) (projOK "x" exTrace) := by
  simp [exTrace, projOK, Causal, exEv]
example : okEmits "x" { n := 2 } exTrace = 2 ∧ reqs (projOK "x" exTrace) = 2 := by decide

end Moc.C09
