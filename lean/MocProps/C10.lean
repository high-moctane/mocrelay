/-
  C10 — Wire codec: decoding never panics; encode/decode round-trips every value.

  Model: MocModel/Codec.lean (decoders on JSON trees).  Totality is by construction: every decoder is a
  total function into `Except String _` — there is no panic outcome to reach, and a successful result is
  a fully built value of the labelled type (the types have no optional event/filter inside a message).
  Byte-level tokenisation is encoding/json's; panic-freedom of the Go code itself is runtime-validated
  on the malformed stream.

  Here: events and the messages without filters.  Filters, REQ and COUNT: C10Filter.lean, with the test on the bytes of a
  member name (the converse, for the names the decoder lets through: C10Bytes.lean).  Decode-encode-decode = decode for
  every type: C10DED.lean.
-/
import MocModel.Codec

namespace Moc.C10

/-- the `switch` of `parseMachineReadablePrefixMsg` tries the prefixes in the order of `knownPrefixes` -/
theorem prefix_order_pinned : prefixOrderActual = prefixOrderExpected := by rfl

/-- `ParseClientMsg`'s dispatch is the one `parseClientMsg` follows -/
theorem parse_dispatch_pinned : Gen.parseClientMsgBody = parseClientMsgExpected := by rfl

/-! What a decoder returned is read off its `do` block with `simp only [decodeX, bind_ok, guard_ok, pure_ok] at h`. -/

theorem bind_ok {ε α β} (x : Except ε α) (f : α → Except ε β) (b : β) :
    (x >>= f) = .ok b ↔ ∃ a, x = .ok a ∧ f a = .ok b := by
  cases x <;> simp [bind, Except.bind]

theorem map_ok {ε α β} (x : Except ε α) (f : α → β) (b : β) :
    x.map f = .ok b ↔ ∃ a, x = .ok a ∧ f a = b := by
  cases x <;> simp [Except.map]

/-- `if c then throw e` in a `do` block (as elaborated: the rest of the block is a join point `g`) lets the rest run
    only when the test fails -/
theorem guard_ok {ε α β} (c : Bool) (e : ε) (f : α → Except ε β) (g : Except ε β) (b : β) :
    (if c = true then throw e >>= f else g) = .ok b ↔ c = false ∧ g = .ok b := by
  cases c <;> simp [bind, Except.bind, throw, throwThe, MonadExceptOf.throw]

theorem error_else_ok {ε α} (c : Bool) (e : ε) (g : Except ε α) (a : α) :
    (if c = true then .error e else g) = .ok a ↔ c = false ∧ g = .ok a := by
  cases c <;> simp

theorem ok_else_error {ε α} (c : Bool) (e : ε) (x a : α) :
    (if c = true then .ok x else .error e : Except ε α) = .ok a ↔ c = true ∧ x = a := by
  cases c <;> simp

theorem pure_ok {ε α} (a b : α) : (pure a : Except ε α) = .ok b ↔ a = b := by
  simp [pure, Except.pure]

theorem decStrsStrict_map (l : List String) : decStrsStrict (l.map JT.str) = .ok l := by
  induction l with
  | nil => rfl
  | cons s r ih => simp [decStrsStrict, ih, Except.map]

theorem decStrLists_map (l : List (List String)) :
    decStrLists (l.map fun t => JT.arr (t.map JT.str)) = .ok l := by
  induction l with
  | nil => rfl
  | cons t r ih =>
    simp only [List.map_cons, decStrLists, decStrsStrict_map, ih]
    rfl

theorem decInt64_int (i : Int) (h : inInt64 i = true) : decInt64 (.int i) = .ok i := by
  simp [decInt64, h]

theorem decInts_map (l : List Int) (h : ∀ i ∈ l, inInt64 i = true) : decInts (l.map JT.int) = .ok l := by
  induction l with
  | nil => rfl
  | cons i r ih =>
    simp only [List.map_cons, decInts, decInt64_int i (h i (by simp)), ih fun j hj => h j (List.mem_cons_of_mem _ hj)]
    rfl

/-- The members are variables: with the encoder's own subterms in their place the same `rfl` unfolds those too and is far
    slower to check; likewise for the message decoders below. -/
theorem decodeEvent_obj (i p c s : String) (ca kd : JT) (tags : List JT) :
    decodeEvent (.obj [("id", .str i), ("pubkey", .str p), ("created_at", ca), ("kind", kd), ("tags", .arr tags),
      ("content", .str c), ("sig", .str s)]) =
    (do let createdAt ← decInt64 ca
        let kind ← decInt64 kd
        let tags ← decStrLists tags
        pure { id := i, pubkey := p, createdAt := createdAt, kind := kind, tags := tags, content := c, sig := s }) := by
  rfl

/-- `h1`, `h2`: the integers fit Go's int64; the decoder lets no others through -/
theorem event_roundtrip (e : Event) (h1 : inInt64 e.createdAt = true) (h2 : inInt64 e.kind = true) :
    decodeEvent (encodeEvent e) = .ok e := by
  rw [encodeEvent, decodeEvent_obj, decInt64_int _ h1, decInt64_int _ h2, decStrLists_map]
  rfl

theorem event_field_count (kvs : List (String × JT)) (h : (objKeys kvs).length ≠ 7) :
    ∃ err, decodeEvent (.obj kvs) = .error err := by
  have : Gen.eventFieldCountBad (objKeys kvs).length = true := bne_iff_ne.2 (by omega)
  exact ⟨"missing or extra fields", by rw [decodeEvent, if_pos this]⟩

example : decodeEvent (encodeEvent { id := "i", pubkey := "p", createdAt := -5, kind := 30023, tags := [["d", "x"], ["t"]], content := "<&>", sig := "s" })
    = .ok { id := "i", pubkey := "p", createdAt := -5, kind := 30023, tags := [["d", "x"], ["t"]], content := "<&>", sig := "s" } := by
  exact event_roundtrip _ (by decide) (by decide)

theorem decodeClientEvent_arr (j : JT) :
    decodeClientEvent (.arr [.str Gen.labelEvent, j]) = (decodeEvent j).map .event := by
  rfl

theorem decodeClientAuth_arr (j : JT) : decodeClientAuth (.arr [.str Gen.labelAuth, j]) = (decodeEvent j).map .auth := by
  rfl

theorem decodeServerEvent_arr (sub : String) (j : JT) :
    decodeServerEvent (.arr [.str Gen.labelEvent, .str sub, j]) = (decodeEvent j).map (.event sub) := by
  rfl

theorem decodeServerOK_arr (id : String) (acc : Bool) (raw : String) :
    decodeServerOK (.arr [.str Gen.labelOK, .str id, .bool acc, .str raw]) =
      .ok (.ok id acc (parsePrefix raw).1 (parsePrefix raw).2) := by
  rfl

theorem decodeServerClosed_arr (sub raw : String) :
    decodeServerClosed (.arr [.str Gen.labelClosed, .str sub, .str raw]) =
      .ok (.closed sub (parsePrefix raw).1 (parsePrefix raw).2) := by
  rfl

theorem decodeServerCount_arr (sub : String) (kvs : List (String × JT)) :
    decodeServerCount (.arr [.str Gen.labelCount, .str sub, .obj kvs]) =
      (decCountPayload kvs (0, none)).map fun na => .count sub na.1 na.2 := by
  rfl

/-- the arity test `len < 3` of REQ and COUNT passes from three elements on -/
theorem arity3 (n : Nat) : decide (((n + 1 + 1 + 1 : Nat) : Int) < 3) = false :=
  decide_eq_false (by omega)

theorem decodeClientReq_arr (sub : String) (f : JT) (fs : List JT) :
    decodeClientReq (.arr (.str Gen.labelReq :: .str sub :: f :: fs)) = (decFilters (f :: fs)).map (.req sub) := by
  simp only [decodeClientReq, decRawArray, bind, Except.bind, List.length_cons, Gen.arityClientReq, arity3]
  rfl

theorem decodeClientCount_arr (sub : String) (f : JT) (fs : List JT) :
    decodeClientCount (.arr (.str Gen.labelCount :: .str sub :: f :: fs)) = (decFilters (f :: fs)).map (.count sub) := by
  simp only [decodeClientCount, decRawArray, bind, Except.bind, List.length_cons, Gen.arityClientCount, arity3]
  rfl

/-! Every message decoder begins in one of two ways; what passed such a head, stated on the `do` block itself.  Applied to
    `h : decodeX j = .ok m` (the decoder is unfolded by unification), it leaves `K a`: the rest of the block, read with
    `bind_ok`, `pure_ok`. -/

/-- the array is taken apart as raw elements, the first of which must read as the label -/
theorem rawHead_ok {α} {j : JT} {arity : Int → Bool} {bad : String → Bool} {e1 e2 : String} {K : List JT → DecE α}
    {m : α}
    (h : (do let elems ← decRawArray j
             if arity elems.length then throw e1
             let label ← decStr (elems.getD 0 .null)
             if bad label then throw e2
             K elems) = .ok m) :
    ∃ a, (decRawArray j = .ok a ∧ arity a.length = false ∧ ∃ l, decStr (a.getD 0 .null) = .ok l ∧ bad l = false) ∧
      K a = .ok m := by
  simp only [bind_ok, guard_ok] at h
  obtain ⟨a, ha, har, l, hl, hb, hk⟩ := h
  exact ⟨a, ⟨ha, har, l, hl, hb⟩, hk⟩

/-- the array is read as a `[]string`, the first of which must be the label -/
theorem strHead_ok {α} {j : JT} {arity : Int → Bool} {bad : String → Bool} {e1 e2 : String} {K : List String → DecE α}
    {m : α}
    (h : (do let elems ← decStrArray j
             if arity elems.length then throw e1
             if bad (elems.getD 0 "") then throw e2
             K elems) = .ok m) :
    ∃ a, (decStrArray j = .ok a ∧ arity a.length = false ∧ bad (a.getD 0 "") = false) ∧ K a = .ok m := by
  simp only [bind_ok, guard_ok] at h
  obtain ⟨a, ha, har, hb, hk⟩ := h
  exact ⟨a, ⟨ha, har, hb⟩, hk⟩

theorem eose_roundtrip (s : String) : decodeServerEOSE (encodeServerMsg (.eose s)) = .ok (.eose s) := by rfl

theorem notice_roundtrip (s : String) : decodeServerNotice (encodeServerMsg (.notice s)) = .ok (.notice s) := by rfl

theorem auth_roundtrip (s : String) : decodeServerAuth (encodeServerMsg (.auth s)) = .ok (.auth s) := by rfl

theorem close_roundtrip (s : String) : decodeClientClose (encodeClientMsg (.close s)) = .ok (.close s) := by rfl

theorem clientEvent_roundtrip (e : Event) (h1 : inInt64 e.createdAt = true) (h2 : inInt64 e.kind = true) :
    decodeClientEvent (encodeClientMsg (.event e)) = .ok (.event e) :=
  (decodeClientEvent_arr _).trans (by rw [event_roundtrip e h1 h2]; rfl)

theorem clientAuth_roundtrip (e : Event) (h1 : inInt64 e.createdAt = true) (h2 : inInt64 e.kind = true) :
    decodeClientAuth (encodeClientMsg (.auth e)) = .ok (.auth e) :=
  (decodeClientAuth_arr _).trans (by rw [event_roundtrip e h1 h2]; rfl)

theorem serverEvent_roundtrip (sub : String) (e : Event) (h1 : inInt64 e.createdAt = true)
    (h2 : inInt64 e.kind = true) : decodeServerEvent (encodeServerMsg (.event sub e)) = .ok (.event sub e) :=
  (decodeServerEvent_arr sub _).trans (by rw [event_roundtrip e h1 h2]; rfl)

theorem decCountVal_nat (n acc : Nat) (hn : (n : Int) ≤ uint64Max) : decCountVal (.int n) acc = .ok n := by
  simp [decCountVal, hn]

theorem decCountPayload_count (v : JT) (r : List (String × JT)) (n : Nat) (a : Option Bool) :
    decCountPayload (("count", v) :: r) (n, a) = (decCountVal v n).bind fun n' => decCountPayload r (n', a) := by
  rfl

theorem decCountPayload_approximate (v : JT) (r : List (String × JT)) (n : Nat) (a : Option Bool) :
    decCountPayload (("approximate", v) :: r) (n, a) = (decApproxVal v).bind fun a' => decCountPayload r (n, a') := by
  rfl

theorem count_roundtrip (sub : String) (n : Nat) (a : Option Bool) (hn : (n : Int) ≤ uint64Max) :
    decodeServerCount (encodeServerMsg (.count sub n a)) = .ok (.count sub n a) := by
  refine (decodeServerCount_arr sub _).trans ?_
  rw [decCountPayload_count, decCountVal_nat n 0 hn]
  cases a with
  | none => rfl
  | some b => simp only [Except.bind, decCountPayload_approximate]; rfl

/-- the six machine-readable prefixes are non-empty and begin with six different letters -/
theorem knownPrefixes_head : ∀ p ∈ knownPrefixes, ∀ q ∈ knownPrefixes,
    p.toList.head? = q.toList.head? → p.toList.head?.isSome ∧ p = q := by
  -- a fixed table of six literals: evaluated, by the kernel only (turning a literal into characters is slow)
  decide +kernel

/-- `parsePrefix` cuts a known prefix off the text, or finds none of them at its head -/
theorem parsePrefix_cases (s : String) :
    (∃ p t, p ∈ knownPrefixes ∧ s.toList = p.toList ++ t ∧ parsePrefix s = (p, String.ofList t)) ∨
    ((∀ p ∈ knownPrefixes, ¬ p.toList <+: s.toList) ∧ parsePrefix s = ("", s)) := by
  unfold parsePrefix
  cases hf : knownPrefixes.find? (fun p => p.toList.isPrefixOf s.toList) with
  | none =>
    exact .inr ⟨fun p hp h => by simpa [List.isPrefixOf_iff_prefix.2 h] using List.find?_eq_none.1 hf p hp, rfl⟩
  | some p =>
    have hpre := List.find?_some hf
    obtain ⟨t, ht⟩ := List.isPrefixOf_iff_prefix.1 hpre
    exact .inl ⟨p, t, List.mem_of_find?_eq_some hf, ht.symm, by simp [← ht]⟩

theorem parsePrefix_join (s : String) : (parsePrefix s).1 ++ (parsePrefix s).2 = s := by
  rcases parsePrefix_cases s with ⟨p, t, -, hs, h⟩ | ⟨-, h⟩
  · rw [h]
    apply String.toList_injective
    simp [hs]
  · rw [h]; simp

theorem parsePrefix_known (p : String) (hp : p ∈ knownPrefixes) (m : String) : parsePrefix (p ++ m) = (p, m) := by
  have hhead : ∀ r ∈ knownPrefixes, ∀ t, (r.toList ++ t).head? = r.toList.head? := fun r hr t => by
    obtain ⟨a, ha⟩ := Option.isSome_iff_exists.1 (knownPrefixes_head r hr r hr rfl).1
    rw [List.head?_append, ha, Option.some_or]
  rcases parsePrefix_cases (p ++ m) with ⟨q, t, hq, hs, h⟩ | ⟨hno, -⟩
  · -- the prefix cut off begins like `p`, so it is `p`
    rw [String.toList_append] at hs
    obtain rfl : q = p := (knownPrefixes_head q hq p hp (by rw [← hhead q hq t, ← hs, hhead p hp])).2
    rw [h, ← List.append_cancel_left hs, String.ofList_toList]
  · exact absurd (by simp [String.toList_append]) (hno p hp)

/-- OK and CLOSED are compared as `prefix ++ text`, which is what the wire carries; that the split itself is recovered is
    proved when the prefix is one of the six machine-readable ones (`ok_roundtrip_known`, `closed_roundtrip_known`);
    for other prefixes it may or may not be (an empty prefix is, trivially). -/
theorem ok_roundtrip (id : String) (acc : Bool) (p m : String) :
    ∃ p' m', decodeServerOK (encodeServerMsg (.ok id acc p m)) = .ok (.ok id acc p' m') ∧ p' ++ m' = p ++ m :=
  ⟨_, _, decodeServerOK_arr id acc (p ++ m), parsePrefix_join _⟩

theorem ok_roundtrip_known (id : String) (acc : Bool) (p m : String) (hp : p ∈ knownPrefixes) :
    decodeServerOK (encodeServerMsg (.ok id acc p m)) = .ok (.ok id acc p m) :=
  (decodeServerOK_arr id acc (p ++ m)).trans (by rw [parsePrefix_known p hp m])

theorem closed_roundtrip (sub p m : String) :
    ∃ p' m', decodeServerClosed (encodeServerMsg (.closed sub p m)) = .ok (.closed sub p' m') ∧ p' ++ m' = p ++ m :=
  ⟨_, _, decodeServerClosed_arr sub (p ++ m), parsePrefix_join _⟩

theorem closed_roundtrip_known (sub p m : String) (hp : p ∈ knownPrefixes) :
    decodeServerClosed (encodeServerMsg (.closed sub p m)) = .ok (.closed sub p m) :=
  (decodeServerClosed_arr sub (p ++ m)).trans (by rw [parsePrefix_known p hp m])

theorem ok_dec_enc_dec (j : JT) (msg : ServerMsg) (h : decodeServerOK j = .ok msg) :
    decodeServerOK (encodeServerMsg msg) = .ok msg := by
  obtain ⟨a, -, hk⟩ := rawHead_ok h
  simp only [bind_ok, pure_ok] at hk
  obtain ⟨id, -, acc, -, raw, -, rfl⟩ := hk
  exact (decodeServerOK_arr id acc _).trans (by rw [parsePrefix_join])

end Moc.C10
