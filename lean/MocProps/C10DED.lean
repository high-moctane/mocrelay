/-
  C10, third clause: for every accepted JSON tree, decode-encode-decode yields the same value as decode.
  Each theorem takes ANY tree the decoder accepts (no well-formedness hypothesis on the value: what the decoder
  lets through is shown to be within the range the round trip needs): events, filters, the five client and the seven
  server messages (OK: `ok_dec_enc_dec` in C10.lean).
-/
import MocProps.C10
import MocProps.C10Filter
import MocProps.C10Bytes

namespace Moc.C10

theorem decInt64_range (j : JT) (i : Int) (h : decInt64 j = .ok i) : inInt64 i = true := by
  cases j with
  | int v =>
    obtain ⟨hv, rfl⟩ := (ok_else_error ..).1 h
    exact hv
  | _ => cases h

theorem decodeEvent_range (j : JT) (e : Event) (h : decodeEvent j = .ok e) :
    inInt64 e.createdAt = true ∧ inInt64 e.kind = true := by
  cases j with
  | obj kvs =>
    simp only [decodeEvent, error_else_ok] at h
    obtain ⟨-, h⟩ := h
    split at h
    · simp only [bind_ok, pure_ok] at h
      obtain ⟨c, hc, k, hk, t, _, rfl⟩ := h
      exact ⟨decInt64_range _ _ hc, decInt64_range _ _ hk⟩
    · cases h
  | _ => cases h

theorem event_dec_enc_dec (j : JT) (e : Event) (h : decodeEvent j = .ok e) : decodeEvent (encodeEvent e) = .ok e :=
  event_roundtrip e (decodeEvent_range j e h).1 (decodeEvent_range j e h).2

theorem clientEvent_dec_enc_dec (j : JT) (m : ClientMsg) (h : decodeClientEvent j = .ok m) :
    decodeClientEvent (encodeClientMsg m) = .ok m := by
  obtain ⟨a, -, hk⟩ := rawHead_ok h
  simp only [bind_ok, pure_ok] at hk
  obtain ⟨e, he, rfl⟩ := hk
  have r := decodeEvent_range _ e he
  exact clientEvent_roundtrip e r.1 r.2

theorem clientAuth_dec_enc_dec (j : JT) (m : ClientMsg) (h : decodeClientAuth j = .ok m) :
    decodeClientAuth (encodeClientMsg m) = .ok m := by
  obtain ⟨a, -, hk⟩ := rawHead_ok h
  simp only [bind_ok, pure_ok] at hk
  obtain ⟨e, he, rfl⟩ := hk
  have r := decodeEvent_range _ e he
  exact clientAuth_roundtrip e r.1 r.2

theorem serverEvent_dec_enc_dec (j : JT) (m : ServerMsg) (h : decodeServerEvent j = .ok m) :
    decodeServerEvent (encodeServerMsg m) = .ok m := by
  obtain ⟨a, -, hk⟩ := rawHead_ok h
  simp only [bind_ok, pure_ok] at hk
  obtain ⟨sub, -, e, he, rfl⟩ := hk
  have r := decodeEvent_range _ e he
  exact serverEvent_roundtrip sub e r.1 r.2

theorem simple_dec_enc_dec (j : JT) :
    (∀ m, decodeClientClose j = .ok m → decodeClientClose (encodeClientMsg m) = .ok m) ∧
    (∀ m, decodeServerEOSE j = .ok m → decodeServerEOSE (encodeServerMsg m) = .ok m) ∧
    (∀ m, decodeServerNotice j = .ok m → decodeServerNotice (encodeServerMsg m) = .ok m) ∧
    (∀ m, decodeServerAuth j = .ok m → decodeServerAuth (encodeServerMsg m) = .ok m) := by
  refine ⟨fun m h => ?_, fun m h => ?_, fun m h => ?_, fun m h => ?_⟩
  · obtain ⟨a, -, ⟨⟩⟩ := strHead_ok h
    exact close_roundtrip _
  · obtain ⟨a, -, ⟨⟩⟩ := strHead_ok h
    exact eose_roundtrip _
  · obtain ⟨a, -, ⟨⟩⟩ := strHead_ok h
    exact notice_roundtrip _
  · obtain ⟨a, -, ⟨⟩⟩ := strHead_ok h
    exact auth_roundtrip _

theorem closed_dec_enc_dec (j : JT) (msg : ServerMsg) (h : decodeServerClosed j = .ok msg) :
    decodeServerClosed (encodeServerMsg msg) = .ok msg := by
  -- the whole block at once: through `strHead_ok`, unification would leave `parsePrefix` unfolded in the rest
  simp only [decodeServerClosed, bind_ok, guard_ok, pure_ok] at h
  obtain ⟨a, -, -, -, rfl⟩ := h
  exact (decodeServerClosed_arr _ _).trans (by rw [parsePrefix_join])

theorem decCountVal_range (v : JT) (n n' : Nat) (h : decCountVal v n = .ok n') (hn : (n : Int) ≤ uint64Max) :
    (n' : Int) ≤ uint64Max := by
  cases v with
  | int i =>
    obtain ⟨hi, rfl⟩ := (ok_else_error ..).1 h
    simp only [Bool.and_eq_true, decide_eq_true_eq] at hi
    rw [Int.toNat_of_nonneg hi.1]; exact hi.2
  | null => cases h; exact hn
  | _ => cases h

theorem decCountPayload_range (kvs : List (String × JT)) :
    ∀ (n : Nat) (a : Option Bool) (n' : Nat) (a' : Option Bool), decCountPayload kvs (n, a) = .ok (n', a') →
      (n : Int) ≤ uint64Max → (n' : Int) ≤ uint64Max := by
  induction kvs with
  | nil => intro n a n' a' h hn; cases h; exact hn
  | cons kv rest ih =>
    obtain ⟨k, v⟩ := kv
    intro n a n' a' h hn
    rw [decCountPayload] at h
    -- a `count` member sets the number, an `approximate` member leaves it
    by_cases hc : (lowerStr k == "count") = true
    · rw [if_pos hc] at h
      obtain ⟨n1, hv, h⟩ := (bind_ok _ _ _).1 h
      exact ih n1 a n' a' h (decCountVal_range v n n1 hv hn)
    by_cases ha : (lowerStr k == "approximate") = true
    · rw [if_neg hc, if_pos ha] at h
      obtain ⟨a1, _, h⟩ := (bind_ok _ _ _).1 h
      exact ih n a1 n' a' h hn
    · rw [if_neg hc, if_neg ha] at h; cases h

theorem count_dec_enc_dec (j : JT) (msg : ServerMsg) (h : decodeServerCount j = .ok msg) :
    decodeServerCount (encodeServerMsg msg) = .ok msg := by
  obtain ⟨a, -, hk⟩ := rawHead_ok h
  simp only [bind_ok, pure_ok] at hk
  obtain ⟨sub, -, ⟨n, ap⟩, hp, rfl⟩ := hk
  apply count_roundtrip
  -- the payload: an object read member by member, or `null` (a no-op on the zero value)
  split at hp
  · exact decCountPayload_range _ 0 none n ap hp (by decide)
  · cases hp; decide
  · cases hp

theorem decInts_range (l : List JT) : ∀ (is : List Int), decInts l = .ok is → ∀ i ∈ is, inInt64 i = true := by
  induction l with
  | nil => intro is h; cases h; simp
  | cons j r ih =>
    intro is h
    simp only [decInts, bind_ok, pure_ok] at h
    obtain ⟨i, hi, is', hr, rfl⟩ := h
    exact List.forall_mem_cons.2 ⟨decInt64_range _ _ hi, ih is' hr⟩

theorem decOptInt_range (kvs : List (String × JT)) (k : String) (i : Int) (h : decOptInt kvs k = .ok (some i)) :
    inInt64 i = true := by
  unfold decOptInt at h
  split at h
  · cases h
  · obtain ⟨v, hd, hv⟩ := (map_ok _ _ _).1 h
    cases hv
    exact decInt64_range _ _ hd

theorem decOptInts_range (kvs : List (String × JT)) (k : String) (l : List Int) (h : decOptInts kvs k = .ok (some l)) :
    ∀ i ∈ l, inInt64 i = true := by
  unfold decOptInts at h
  split at h
  · cases h
  · obtain ⟨v, hd, hv⟩ := (map_ok _ _ _).1 h
    cases hv
    exact decInts_range _ _ hd
  · cases h

theorem decTagConds_names (kvs : List (String × JT)) (ks : List String) :
    ∀ (l : List (String × List String)), decTagConds kvs ks = .ok l →
      l.map Prod.fst = ks.map (fun k => String.ofList (k.toList.drop 1)) := by
  induction ks with
  | nil => intro l h; cases h; rfl
  | cons k ks ih =>
    intro l h
    simp only [decTagConds] at h
    split at h
    · simp only [bind_ok, pure_ok] at h
      obtain ⟨vs, _, rest, hr, rfl⟩ := h
      simp [ih rest hr]
    · cases h

theorem decodeFilter_rt (j : JT) (f : Filter) (h : decodeFilter j = .ok f) : FilterRT f := by
  cases j with
  | null => cases h; exact ⟨nofun, nofun, nofun, nofun, nofun, nofun⟩
  | obj kvs =>
    simp only [decodeFilter, error_else_ok, bind_ok, pure_ok] at h
    obtain ⟨-, ids, _, authors, _, kinds, hkinds, tags, htags, since, hsince, until_, huntil, limit, hlimit, rfl⟩ := h
    have hnames := decTagConds_names kvs _ tags htags
    have hk : ∀ k ∈ (objKeys kvs).filter isTagKey, isTagKey k = true := fun k hk => (List.mem_filter.1 hk).2
    have hnd : ((objKeys kvs).filter isTagKey).Nodup := (nodup_eraseDups _).filter _
    generalize (objKeys kvs).filter isTagKey = ks at hnames hk hnd
    -- the `tags` member, when present, holds `tags`, which are as many as the keys
    have htg : ∀ l, (if ks.isEmpty then none else some tags) = some l → l = tags ∧ l ≠ [] := fun l hl => by
      by_cases hke : ks.isEmpty = true
      · rw [if_pos hke] at hl; cases hl
      · rw [if_neg hke] at hl; cases hl
        exact ⟨rfl, fun he => hke (by simpa [he] using hnames.symm)⟩
    refine ⟨fun he => (htg _ he).2 rfl, fun l hl => ?_, fun l hl => decOptInts_range kvs "kinds" l (hl ▸ hkinds),
      fun i hi => decOptInt_range kvs "since" i (hi ▸ hsince), fun i hi => decOptInt_range kvs "until" i (hi ▸ huntil),
      fun i hi => decOptInt_range kvs "limit" i (hi ▸ hlimit)⟩
    obtain ⟨rfl, -⟩ := htg l hl
    rw [hnames]
    constructor
    · refine List.pairwise_map.2 (hnd.imp_of_mem ?_)
      intro a b ha hb hne he
      exact hne (by rw [(tagKey_name a (hk a ha)).1, (tagKey_name b (hk b hb)).1, he])
    · intro c hc
      obtain ⟨k, hkm, he⟩ := List.mem_map.1 (hnames ▸ List.mem_map_of_mem (f := Prod.fst) hc)
      exact he ▸ (tagKey_name k (hk k hkm)).2
  | _ => cases h

theorem filter_dec_enc_dec (j : JT) (f : Filter) (h : decodeFilter j = .ok f) :
    decodeFilter (encodeFilter f) = .ok f := filter_roundtrip f (decodeFilter_rt j f h)

theorem decFilters_rt (l : List JT) : ∀ (fs : List Filter), decFilters l = .ok fs →
    fs.length = l.length ∧ ∀ f ∈ fs, FilterRT f := by
  induction l with
  | nil => intro fs h; cases h; simp
  | cons j r ih =>
    intro fs h
    simp only [decFilters, bind_ok, pure_ok] at h
    obtain ⟨f, hf, fs', hr, rfl⟩ := h
    obtain ⟨hl, hall⟩ := ih fs' hr
    exact ⟨by simp [hl], List.forall_mem_cons.2 ⟨decodeFilter_rt _ _ hf, hall⟩⟩

/-- a filter list decoded from the tail of an array that passed the arity test `len < 3` is not empty -/
theorem decFilters_drop_ne (a : List JT) (fs : List Filter) (h : decFilters (a.drop 2) = .ok fs)
    (ha : decide (((a.length : Nat) : Int) < 3) = false) : fs ≠ [] ∧ ∀ f ∈ fs, FilterRT f := by
  obtain ⟨hl, hall⟩ := decFilters_rt _ fs h
  refine ⟨fun he => ?_, hall⟩
  simp only [he, List.length_nil, List.length_drop, decide_eq_false_iff_not] at hl ha
  omega

theorem req_count_dec_enc_dec (j : JT) :
    (∀ m, decodeClientReq j = .ok m → decodeClientReq (encodeClientMsg m) = .ok m) ∧
    (∀ m, decodeClientCount j = .ok m → decodeClientCount (encodeClientMsg m) = .ok m) := by
  refine ⟨fun m h => ?_, fun m h => ?_⟩
  · obtain ⟨a, ⟨-, har, -⟩, hk⟩ := rawHead_ok h
    simp only [bind_ok, pure_ok] at hk
    obtain ⟨sub, -, fs, hfs, rfl⟩ := hk
    obtain ⟨hne, hall⟩ := decFilters_drop_ne a fs hfs har
    exact (req_count_roundtrip sub fs hne hall).1
  · obtain ⟨a, ⟨-, har, -⟩, hk⟩ := rawHead_ok h
    simp only [bind_ok, pure_ok] at hk
    obtain ⟨sub, -, fs, hfs, rfl⟩ := hk
    obtain ⟨hne, hall⟩ := decFilters_drop_ne a fs hfs har
    exact (req_count_roundtrip sub fs hne hall).2

end Moc.C10
