/-
  C16, Dump/Restore: restoring the dump of any store that satisfies the invariants (every reachable one does) into
  a fresh store of the same capacity gives a store that answers every query as the original
  (`restore_dump`, `restore_dump_reachable`).  Each re-insertion just adds the event: it is not ephemeral, not
  blocked (a blocking entry would belong to a retained request naming it - impossible by C05's invariant), its key
  is fresh, a deletion request finds nothing to delete, and the capacity is not exceeded (`restore_step`).
  The dump is a list of events here; its JSON encoding is only validated at run time.
-/
import MocProps.C05Sound
import MocProps.C03Find
import MocModel.Handlers

namespace Moc.C16
open Moc.CacheL Moc.C04 Moc.C05

theorem restore_step (C : Cache) (h1 : Inv1 C) (h2 : Inv2 C) (s : Cache) (hk : (s.evs.map eventKey).Nodup)
    (hs : RegSound s) (hcap : s.cap = C.cap) (hsub : ∀ y ∈ s.evs, y ∈ C.evs) (x : Event) (hx : x ∈ C.evs)
    (hnew : x ∉ s.evs) : (s.add x).1.cap = C.cap ∧ ∀ y, y ∈ (s.add x).1.evs ↔ y = x ∨ y ∈ s.evs := by
  -- the key of `x` is not in use: the event stored under it would be `x`
  have hfresh : s.lookup (eventKey x) = none := by
    cases hl : s.lookup (eventKey x) with
    | none => rfl
    | some y =>
      have hm := lookup_mem s _ y hl
      exact absurd (key_inj C h1.keys y x (hsub y hm.1) hx hm.2 ▸ hm.1) hnew
  -- and `x` is not blocked: the blocking registration would belong to a retained request naming `x`
  have hnb : Blocked s x = false := Bool.eq_false_iff.2 fun hb => by
    obtain ⟨d, hd, hd5, hn⟩ := named_of_blocked s hs x hb
    exact h2.never x d hx (hsub d hd) hd5 hn
  rw [add_fresh s x (h1.noEph x hx) hnb hfresh]
  have hsub1 : ∀ y ∈ x :: s.evs, y ∈ C.evs := fun y hy => (List.mem_cons.1 hy).elim (· ▸ hx) (hsub y)
  have hk1 := keys_nodup_cons s.evs x (lookup_none s _ hfresh) hk
  have hmem := mem_process_evs { s with evs := x :: s.evs } x hk1
  have hle := process_le { s with evs := x :: s.evs } x
  generalize process { s with evs := x :: s.evs } x = c2 at *
  rcases evict_cases c2 with ⟨h', _⟩ | ⟨o, _, hover, _⟩
  · -- a deletion request finds nothing to delete
    rw [h']
    exact ⟨hle.1.trans hcap, fun y => ((hmem y).trans
      (and_iff_left_of_imp fun hy hn => h2.never y x (hsub1 y hy) hx hn.1 hn.2)).trans List.mem_cons⟩
  · -- and the capacity is not exceeded
    rw [hle.1.trans hcap] at hover
    exact absurd (Int.le_trans (Int.ofNat_le.2 (Nat.le_trans hle.2.length_le
      (List.Nodup.length_le_of_subset (nodup_of_map_nodup eventKey _ hk1) hsub1))) h1.capOk) (Int.not_le.2 hover)

theorem restore_fold (C : Cache) (h1 : Inv1 C) (h2 : Inv2 C) (L : List Event) :
    ∀ s : Cache, (s.evs.map eventKey).Nodup → RegSound s → s.cap = C.cap → (∀ y ∈ s.evs, y ∈ C.evs) →
      (∀ x ∈ L, x ∈ C.evs ∧ x ∉ s.evs) → L.Nodup →
      ((restore s L).evs.map eventKey).Nodup ∧ ∀ y, y ∈ (restore s L).evs ↔ y ∈ s.evs ∨ y ∈ L := by
  induction L with
  | nil => intro s hk _ _ _ _ _; exact ⟨hk, fun y => (or_iff_left List.not_mem_nil).symm⟩
  | cons x xs ih =>
    intro s hk hs hcap hsub hL hnd
    obtain ⟨hcap', hmem⟩ := restore_step C h1 h2 s hk hs hcap hsub x (hL x List.mem_cons_self).1 (hL x List.mem_cons_self).2
    obtain ⟨hk', hs'⟩ := add_rs s x hk hs
    obtain ⟨hx, hxs⟩ := List.nodup_cons.1 hnd
    obtain ⟨r1, r2⟩ := ih (s.add x).1 hk' hs' hcap'
      (fun y hy => ((hmem y).1 hy).elim (fun h => h ▸ (hL x List.mem_cons_self).1) (hsub y))
      (fun z hz => ⟨(hL z (List.mem_cons_of_mem _ hz)).1, fun hm => ((hmem z).1 hm).elim
        (fun h => hx (h ▸ hz)) (hL z (List.mem_cons_of_mem _ hz)).2⟩) hxs
    refine ⟨r1, fun y => (r2 y).trans ?_⟩
    rw [hmem, List.mem_cons, or_assoc, or_left_comm]

theorem dump_spec (C : Cache) (hc : C03.StoreOK C) (L : List Event) (hdump : dump C = .ok L) :
    L.Nodup ∧ ∀ x, x ∈ L ↔ x ∈ C.evs := by
  have hemptyF : ∀ f ∈ [({} : Filter)], C03.FilterOK f := fun f hf => by
    cases List.mem_singleton.1 hf; exact ⟨fun _ h => (nomatch h), fun _ h => (nomatch h)⟩
  rw [dump, C03.find_eq C hc id (fun l => .refl l) [{}] hemptyF] at hdump
  cases hdump
  refine ⟨(C03.sorted_desc _ (C03.sortOrd_sorted _)).2, fun x => ?_⟩
  -- the empty filter has no limit and matches every event
  rw [C03.mem_sortOrd hc.inj (C03.flatMap_topOf_subset C _), List.flatMap_singleton, C03.topOf]
  show x ∈ sortOrd _ ↔ _
  rw [C03.mem_sortOrd hc.inj (fun y hy => (List.mem_filter.1 hy).1), List.mem_filter]
  exact and_iff_left ((C02.nip01MatchB_iff {} x).2 (C02.empty_filter_matches_all x))

theorem restore_dump (C : Cache) (h1 : Inv1 C) (h2 : Inv2 C) (hc : C03.StoreOK C)
    (perm : List Event → List Event) (hperm : ∀ l, (perm l).Perm l) (L : List Event)
    (hdump : dump C = .ok L) (fs : List Filter) (hfs : ∀ f ∈ fs, C03.FilterOK f) :
    (restore { cap := C.cap } L).find perm fs = C.find perm fs := by
  obtain ⟨hndL, hmemL⟩ := dump_spec C hc L hdump
  -- so the rebuilt store holds the same events
  obtain ⟨hkeys, hri⟩ := restore_fold C h1 h2 L { cap := C.cap } List.nodup_nil (fun _ ht => nomatch ht) rfl
    (fun _ hy => nomatch hy) (fun x hx => ⟨(hmemL x).1 hx, fun h => nomatch h⟩) hndL
  have hmem : ∀ x, x ∈ (restore { cap := C.cap } L).evs ↔ x ∈ C.evs := fun x =>
    (hri x).trans ((or_iff_right (fun h => nomatch h)).trans (hmemL x))
  exact C03.find_congr C _ hc (C03.storeOK_of_keys hc.inj hc.tags (fun x => (hmem x).1) hkeys) hmem perm hperm
    fs hfs

theorem restore_dump_reachable (cap : Int) (hcap : 0 ≤ cap) (es : List Event) (hinj : C03.IdInj es)
    (hne : ∀ e ∈ es, C02.TagsNonEmpty e) (perm : List Event → List Event) (hperm : ∀ l, (perm l).Perm l)
    (L : List Event) (hdump : dump (C04.run { cap := cap } es) = .ok L) (fs : List Filter)
    (hfs : ∀ f ∈ fs, C03.FilterOK f) :
    (restore { cap := cap } L).find perm fs = (C04.run { cap := cap } es).find perm fs := by
  have h1 := C04.retention_all_histories cap hcap es
  have := restore_dump (C04.run { cap := cap } es) h1.1 (C05.run_inv2 { cap := cap } es (C05.inv2_empty cap))
    (C03.storeOK_reachable cap hcap es hinj hne) perm hperm L hdump fs hfs
  rw [h1.2] at this
  exact this

end Moc.C16
