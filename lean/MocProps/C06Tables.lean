/-
  C06, the tables after any history of batches (`tables_after_history`), the seven-field theorem
  (`answer_event_is_inserted`), newest-wins for every inserted event (`every_event_settled`) and batch splitting
  (`batch_split_irrelevant`).  All on the table model of MocModel/Sqlite.lean, by the invariant `TInv`.
-/
import MocModel.Sqlite
import MocProps.SqliteLemmas
import MocProps.ListMap
namespace Moc.C06
open Moc.C14

/-- the tables describe a set of stored versions: one row per key, and for every row the parameters of an inserted
    event that it came from, its payload and exactly its tag rows -/
structure TInv (ps : List Params) (db : Db) : Prop where
  keys : (db.events.map (·.key)).Nodup
  src : ∀ r ∈ db.events, ∃ p ∈ ps, p.row = r ∧ db.payloads.lookup r.key = some p.payload ∧
        (∀ t, (t ∈ db.tags ∧ t.2.2 = r.key) ↔ (t ∈ p.tagRows ∧ t.2.2 = r.key))
  tagKeys : ∀ t ∈ db.tags, t.2.2 ∈ db.events.map (·.key)
  payKeys : ∀ q ∈ db.payloads, q.1 ∈ db.events.map (·.key)

theorem letter_utf8Size (c : Char) (h : (decide ('a' ≤ c) && decide (c ≤ 'z') || decide ('A' ≤ c) && decide (c ≤ 'Z')) = true) :
    c.utf8Size = 1 := by
  have hle : c.val ≤ 127 := by
    simp only [Bool.or_eq_true, Bool.and_eq_true, decide_eq_true_eq] at h
    rcases h with ⟨_, h2⟩ | ⟨_, h2⟩
    · exact UInt32.le_trans (show c.val ≤ 'z'.val from h2) (by decide)
    · exact UInt32.le_trans (show c.val ≤ 'Z'.val from h2) (by decide)
  simp [Char.utf8Size, hle]

theorem isAsciiLetter_single (n : String) : isAsciiLetter n = true → ∃ c : Char, n = String.ofList [c] ∧ c.utf8Size = 1 := by
  unfold isAsciiLetter
  intro h
  split at h
  · rename_i c hc
    exact ⟨c, by rw [← hc]; simp, letter_utf8Size c h⟩
  · cases h

/-- `buildInsertEventsParamsTags` as a set; its test `len(tag[0]) != 1` is subsumed by the letter test -/
theorem mem_tagRows_iff (e : Event) (key : SKey) (x : String × Int × SKey) :
    x ∈ tagRows e key ↔
      ∃ t ∈ e.tags, ∃ n, tagName? t = some n ∧ isAsciiLetter n = true ∧ (n ++ tagValue t, e.createdAt, key) = x := by
  rw [tagRows, List.mem_eraseDups, List.mem_filterMap]
  refine exists_congr fun t => and_congr_right fun _ => ?_
  match t with
  | [] => simp [Gen.sqlTagEmpty, tagName?]
  | n :: rest =>
    have c1 : Gen.sqlTagEmpty (((n :: rest).length : Nat) : Int) = false :=
      beq_false_of_ne (Int.ne_of_gt (Int.natCast_succ_pos _))
    have cv : (if Gen.sqlTagHasValue (((n :: rest).length : Nat) : Int) then (n :: rest).getD 1 "" else "") = tagValue (n :: rest) := by
      cases rest with
      | nil => rfl
      | cons w ws => exact if_pos (decide_eq_true (Int.ofNat_lt.2 (Nat.succ_lt_succ (Nat.succ_pos _))))
    simp only [c1, Bool.false_eq_true, if_false, List.headD_cons, cv, tagName?, Option.some.injEq, exists_eq_left']
    cases hl : isAsciiLetter n with
    | false => simp
    | true =>
      obtain ⟨c, rfl, hc⟩ := isAsciiLetter_single n hl
      simp [Gen.sqlTagNameLen, hc]

theorem tagRows_key (e : Event) (k : SKey) : ∀ t ∈ tagRows e k, t.2.2 = k := by
  intro x hx
  obtain ⟨_, _, _, _, _, rfl⟩ := (mem_tagRows_iff e k x).1 hx
  rfl

def WFParams (p : Params) : Prop := ∀ t ∈ p.tagRows, t.2.2 = p.row.key

theorem buildParams_eq_some {e : Event} {p : Params} (h : buildParams e = some p) :
    ∃ key id pk sig, sqlKey e = some key ∧ hexNorm e.id = some id ∧ hexNorm e.pubkey = some pk ∧
      hexNorm e.sig = some sig ∧
      p = { row := { key := key, id := id, pubkey := pk, createdAt := e.createdAt, kind := e.kind },
            payload := { e with id := id, pubkey := pk, sig := sig },
            tagRows := tagRows e key, delKeys := delKeyRows e pk, delIds := delIdRows e pk } := by
  unfold buildParams at h
  split at h
  · rename_i key id pk sig hk hi hp hs
    exact ⟨key, id, pk, sig, hk, hi, hp, hs, (Option.some.inj h).symm⟩
  · cases h

theorem buildParams_wf (e : Event) (p : Params) (h : buildParams e = some p) : WFParams p := by
  obtain ⟨key, _, _, _, _, _, _, _, rfl⟩ := buildParams_eq_some h
  exact tagRows_key e key

theorem insertSet_subset {α} [BEq α] [LawfulBEq α] (l : List α) (x y : α) (h : y ∈ insertSet l x) : y ∈ l ∨ y = x :=
  (mem_insertSet l x y).1 h

/-- what the two writing cases of `insertOne_cases` have in common: `p`'s row under its key, the key's payload and
    tag rows deleted (by the triggers), then `p`'s inserted -/
theorem TInv.write {ps : List Params} {db db' : Db} {p : Params} (h : TInv ps db) (hp : p ∈ ps) (hwf : WFParams p)
    (hkeys : (db'.events.map (·.key)).Nodup)
    (hev : ∀ r, r ∈ db'.events ↔ (r ∈ db.events ∧ r.key ≠ p.row.key) ∨ r = p.row)
    (hpay : db'.payloads = db.payloads.filter (fun q => q.1 != p.row.key) ++ [(p.row.key, p.payload)])
    (htags : db'.tags = db.tags.filter (fun q => q.2.2 != p.row.key) ++ p.tagRows) : TInv ps db' := by
  have hkey : ∀ k ∈ db.events.map (·.key), k ≠ p.row.key → k ∈ db'.events.map (·.key) := by
    intro k hk hne
    obtain ⟨r, hr, rfl⟩ := List.mem_map.1 hk
    exact List.mem_map.2 ⟨r, (hev r).2 (.inl ⟨hr, hne⟩), rfl⟩
  have hown : p.row.key ∈ db'.events.map (·.key) := List.mem_map.2 ⟨p.row, (hev _).2 (.inr rfl), rfl⟩
  refine ⟨hkeys, fun r hr => ?_, fun t ht => ?_, fun q hq => ?_⟩
  · rw [hpay, lookup_write]
    simp only [htags, List.mem_append, List.mem_filter, bne_iff_ne, ne_eq]
    rcases (hev r).1 hr with ⟨hr0, hne⟩ | rfl
    · obtain ⟨p0, hp0, e1, e2, e3⟩ := h.src r hr0
      refine ⟨p0, hp0, e1, by rw [if_neg hne]; exact e2, fun t => ?_⟩
      rw [← e3 t]
      constructor
      · rintro ⟨⟨ht, _⟩ | ht, hk⟩
        · exact ⟨ht, hk⟩
        · exact absurd ((hwf t ht).symm.trans hk).symm hne
      · rintro ⟨ht, hk⟩
        exact ⟨.inl ⟨ht, hk ▸ hne⟩, hk⟩
    · refine ⟨p, hp, rfl, if_pos rfl, fun t => ?_⟩
      constructor
      · rintro ⟨⟨_, hne⟩ | ht, hk⟩
        · exact absurd hk hne
        · exact ⟨ht, hk⟩
      · rintro ⟨ht, hk⟩
        exact ⟨.inr ht, hk⟩
  · rw [htags] at ht
    rcases List.mem_append.1 ht with ht | ht
    · obtain ⟨ht, hne⟩ := List.mem_filter.1 ht
      exact hkey _ (h.tagKeys t ht) (by simpa using hne)
    · exact hwf t ht ▸ hown
  · rw [hpay] at hq
    rcases List.mem_append.1 hq with hq | hq
    · obtain ⟨hq, hne⟩ := List.mem_filter.1 hq
      exact hkey _ (h.payKeys q hq) (by simpa using hne)
    · obtain rfl : q = (p.row.key, p.payload) := by simpa using hq
      exact hown

theorem insertOne_inv (ps : List Params) (db : Db) (p : Params) (hp : p ∈ ps) (hwf : WFParams p)
    (h : TInv ps db) : TInv ps (db.insertOne p) := by
  rcases insertOne_cases db p with ⟨_, e⟩ | ⟨hf, e⟩ | ⟨old, hf, _, e⟩ <;> rw [e]
  · exact h
  · -- a fresh key: no payload or tag row carries it, the triggers' deletes would find nothing
    have hnone : ∀ k ∈ db.events.map (·.key), k ≠ p.row.key := by
      rintro k hk rfl
      obtain ⟨r, hr, hrk⟩ := List.mem_map.1 hk
      simpa [hrk] using List.find?_eq_none.1 hf r hr
    refine h.write hp hwf ?_ (fun r => ?_) ?_ ?_
    · rw [List.map_append, List.nodup_append]
      exact ⟨h.keys, by simp, fun a ha b hb => by rw [List.mem_singleton.1 hb]; exact hnone a ha⟩
    · rw [List.mem_append, List.mem_singleton]
      exact or_congr_left ⟨fun hr => ⟨hr, hnone _ (List.mem_map_of_mem hr)⟩, And.left⟩
    · rw [List.filter_eq_self.2 fun q hq => by simpa using hnone _ (h.payKeys q hq)]
    · rw [List.filter_eq_self.2 fun t ht => by simpa using hnone _ (h.tagKeys t ht)]
  · refine h.write hp hwf ?_ (fun r => mem_replace hf) rfl rfl
    rw [List.map_map]
    exact (List.map_congr_left fun r _ => key_replace p.row r) ▸ h.keys

theorem inv_empty (ps : List Params) : TInv ps {} :=
  ⟨List.nodup_nil, fun _ h => (List.not_mem_nil h).elim, fun _ h => (List.not_mem_nil h).elim,
    fun _ h => (List.not_mem_nil h).elim⟩

def paramsOf (hist : List Event) : List Params := hist.filterMap buildParams

theorem batch_split_irrelevant (db : Db) (a b : List Event) :
    (db.insertBatch a).insertBatch b = db.insertBatch (a ++ b) := by
  simp [Db.insertBatch, List.filterMap_append, List.foldl_append]

theorem batches_eq_one (batches : List (List Event)) (db : Db) :
    batches.foldl Db.insertBatch db = db.insertBatch batches.flatten := by
  induction batches generalizing db with
  | nil => rfl
  | cons b bs ih => simp only [List.foldl_cons, List.flatten_cons, ih, batch_split_irrelevant]

theorem tables_after_history (batches : List (List Event)) :
    TInv (paramsOf batches.flatten) (batches.foldl Db.insertBatch {}) := by
  rw [batches_eq_one]
  refine foldl_prefix_induction Db.insertOne {} (fun _ d => TInv (paramsOf batches.flatten) d) _ (inv_empty _) ?_
  intro done q rest hd h
  have hq : q ∈ paramsOf batches.flatten := by
    rw [paramsOf, ← hd]
    exact List.mem_append_right _ List.mem_cons_self
  obtain ⟨e, _, he⟩ := List.mem_filterMap.1 hq
  exact insertOne_inv _ _ q hq (buildParams_wf e q he) h

/-- id, pubkey and sig are lower-case hex (as behind the admission gate): the event is stored as it is -/
def LowerHex (e : Event) : Prop := hexNorm e.id = some e.id ∧ hexNorm e.pubkey = some e.pubkey ∧ hexNorm e.sig = some e.sig

theorem buildParams_lower {e : Event} {p : Params} (h : buildParams e = some p) (hl : LowerHex e) :
    ∃ key, sqlKey e = some key ∧
      p = { row := { key := key, id := e.id, pubkey := e.pubkey, createdAt := e.createdAt, kind := e.kind },
            payload := e, tagRows := tagRows e key, delKeys := delKeyRows e e.pubkey,
            delIds := delIdRows e e.pubkey } := by
  obtain ⟨key, id, pk, sig, hk, hi, hp, hs, rfl⟩ := buildParams_eq_some h
  obtain ⟨rfl⟩ := hl.1.symm.trans hi
  obtain ⟨rfl⟩ := hl.2.1.symm.trans hp
  obtain ⟨rfl⟩ := hl.2.2.symm.trans hs
  exact ⟨key, hk, rfl⟩

theorem eventOf_src {db : Db} {r : ERow} {e : Event} {p : Params} (h : buildParams e = some p) (hl : LowerHex e)
    (hrow : p.row = r) (hpay : db.payloads.lookup r.key = some p.payload) : db.eventOf r = some e := by
  obtain ⟨_, _, rfl⟩ := buildParams_lower h hl
  subst hrow
  simp only [Db.eventOf, hpay, Option.map_some]

/-- "Identical in all seven fields": whatever row a query selects, the event built from it and its payload (`toEvent`)
    is an event that was inserted. -/
theorem answer_event_is_inserted (batches : List (List Event)) (hlow : ∀ e ∈ batches.flatten, LowerHex e)
    (r : ERow) (hr : r ∈ (batches.foldl Db.insertBatch {}).events) :
    ∃ e ∈ batches.flatten, (batches.foldl Db.insertBatch {}).eventOf r = some e := by
  obtain ⟨p, hp, hrow, hpay, _⟩ := (tables_after_history batches).src r hr
  obtain ⟨e, he, hb⟩ := List.mem_filterMap.1 hp
  exact ⟨e, he, eventOf_src hb (hlow e he) hrow hpay⟩

/-- Newest wins, for every history: the row under the key of an inserted (non-skipped) event is that event or one it
    could not replace. -/
theorem every_event_settled (batches : List (List Event))
    (hcoh : Coherent ((paramsOf batches.flatten).map (·.row))) :
    ∀ p ∈ paramsOf batches.flatten, Settled (batches.foldl Db.insertBatch {}) p := by
  rw [batches_eq_one]
  exact fold_settled _ {} (by simpa using hcoh)

end Moc.C06
