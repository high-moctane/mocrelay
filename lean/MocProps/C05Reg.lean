/-
  C05, the deletion registry: the map-of-sets the Go code maintains implements the set of triples
  (referenced key, author, id of the retained request) of the models — entry by entry:
    regIsDeleted  =  "some triple has this key and author"        (`isDeleted_refines`)
    regAdd        =  insertion of a triple                         (`regAdd_refines`)
    regDel        =  removal of a triple                           (`regDel_refines`)
  under the representation invariant that no empty set is kept (`RegOK`, preserved by both updates) — the reason why
  "the entry exists" may stand for "some request naming the key is retained".
  The abstract store uses its `deleted` component through exactly these three operations (`Cache.isDeleted`,
  `Cache.addKind5`, the filter in `Cache.delete`); at run time the implementation's registry (hook `VerifState`) is
  compared with the model's triples after every insertion, empty sets included.
-/
import MocModel.CacheReg
import MocProps.ListMap

namespace Moc.C05R

/-- no empty set is kept (`regDel` removes an emptied one), so `regIsDeleted` may test for the entry alone -/
def RegOK (r : Reg) : Prop := ∀ p ∈ r, p.2 ≠ []

/-- a key occurs once: `lookup` sees only the first occurrence, so `mem_triples` needs it; the updates keep it because
    they filter the key out before re-inserting it -/
def KeysNodup (r : Reg) : Prop := (r.map (·.1)).Nodup

theorem rGet_rSet (r : Reg) (k k' : String × String) (s : List String) :
    rGet (rSet r k s) k' = if k' = k then s else rGet r k' :=
  getD_lookup_set r k k' s []

theorem rGet_rErase (r : Reg) (k k' : String × String) :
    rGet (rErase r k) k' = if k' = k then [] else rGet r k' :=
  getD_lookup_erase r k k' []

/-- the inner sets are kept as lists: "add unless present" is `List.insert` -/
theorem rGet_regAdd (r : Reg) (k p i : String) (kk : String × String) :
    rGet (regAdd r k p i) kk = if kk = (k, p) then (rGet r (k, p)).insert i else rGet r kk :=
  rGet_rSet r (k, p) kk _

theorem regDel_cases (r : Reg) (k p i : String) :
    (regDel r k p i = r ∧ rGet r (k, p) = []) ∨
    (regDel r k p i = rErase r (k, p) ∧ (rGet r (k, p)).filter (fun x => x != i) = []) ∨
    (regDel r k p i = rSet r (k, p) ((rGet r (k, p)).filter (fun x => x != i)) ∧
      (rGet r (k, p)).filter (fun x => x != i) ≠ []) :=
  updateSet_cases (g := (·.filter (· != i))) (fun h => by rw [regDel, h]) fun s h => by rw [regDel, h]; rfl

/-- the three branches of `regDel` do the same to what is found under every key -/
theorem rGet_regDel (r : Reg) (k p i : String) (kk : String × String) :
    rGet (regDel r k p i) kk = if kk = (k, p) then (rGet r (k, p)).filter (fun x => x != i) else rGet r kk :=
  getD_lookup_updateSet (g := (·.filter (· != i))) rfl (regDel_cases r k p i) kk

theorem keys_regAdd (r : Reg) (k p i : String) (h : KeysNodup r) : KeysNodup (regAdd r k p i) :=
  keys_nodup_set r _ _ h

theorem keys_regDel (r : Reg) (k p i : String) (h : KeysNodup r) : KeysNodup (regDel r k p i) := by
  rcases regDel_cases r k p i with ⟨h', _⟩ | ⟨h', _⟩ | ⟨h', _⟩ <;> rw [h']
  · exact h
  · exact keys_nodup_filter r _ h
  · exact keys_nodup_set r _ _ h

theorem ok_rErase (r : Reg) (k : String × String) (h : RegOK r) : RegOK (rErase r k) :=
  fun q hq => h q (List.mem_filter.1 hq).1

theorem ok_rSet (r : Reg) (k : String × String) (s : List String) (h : RegOK r) (hs : s ≠ []) : RegOK (rSet r k s) := by
  intro q hq
  rcases List.mem_cons.1 hq with rfl | hq
  · exact hs
  · exact ok_rErase r k h q hq

theorem ok_regAdd (r : Reg) (k p i : String) (h : RegOK r) : RegOK (regAdd r k p i) :=
  ok_rSet r _ _ h (List.ne_nil_of_mem (List.mem_insert_self (a := i) (l := rGet r (k, p))))

theorem ok_regDel (r : Reg) (k p i : String) (h : RegOK r) : RegOK (regDel r k p i) := by
  rcases regDel_cases r k p i with ⟨h', _⟩ | ⟨h', _⟩ | ⟨h', hne⟩ <;> rw [h']
  · exact h
  · exact ok_rErase r _ h
  · exact ok_rSet r _ _ h hne

theorem mem_triples (r : Reg) (hk : KeysNodup r) (k p i : String) :
    (k, p, i) ∈ triples r ↔ i ∈ rGet r (k, p) := by
  simp only [triples, List.mem_flatMap, List.mem_map, Prod.mk.injEq]
  constructor
  · rintro ⟨⟨⟨qk, qp⟩, s⟩, hq, j, hj, rfl, rfl, rfl⟩
    rw [rGet, (mem_iff_lookup_eq_some hk).1 hq]
    exact hj
  · intro hi
    cases hl : r.lookup (k, p) with
    | none => rw [rGet, hl] at hi; cases hi
    | some s =>
      rw [rGet, hl] at hi
      exact ⟨((k, p), s), mem_of_lookup_eq_some hl, i, hi, rfl, rfl, rfl⟩

/-- the registry represents the set of triples `d` -/
structure Rel (r : Reg) (d : List (String × String × String)) : Prop where
  keys : KeysNodup r
  ok : RegOK r
  mem : ∀ t, t ∈ triples r ↔ t ∈ d

theorem Rel.get {r : Reg} {d : List (String × String × String)} (h : Rel r d) (k p i : String) :
    i ∈ rGet r (k, p) ↔ (k, p, i) ∈ d :=
  (mem_triples r h.keys k p i).symm.trans (h.mem _)

theorem rel_empty : Rel [] [] := by
  refine ⟨List.nodup_nil, ?_, ?_⟩
  · intro p hp; cases hp
  · intro t; simp [triples]

theorem regIsDeleted_iff (r : Reg) (hok : RegOK r) (k p : String) :
    regIsDeleted r k p = true ↔ ∃ i, i ∈ rGet r (k, p) := by
  unfold regIsDeleted rGet
  cases hl : r.lookup (k, p) with
  | none => exact iff_of_false Bool.false_ne_true fun ⟨_, h⟩ => nomatch h
  | some s => exact iff_of_true rfl (List.exists_mem_of_ne_nil s (hok _ (mem_of_lookup_eq_some hl)))

theorem isDeleted_refines (r : Reg) (d : List (String × String × String)) (h : Rel r d) (k p : String) :
    regIsDeleted r k p = d.any (fun t => t.1 == k && t.2.1 == p) := by
  rw [Bool.eq_iff_iff, regIsDeleted_iff r h.ok, List.any_eq_true]
  constructor
  · rintro ⟨i, hi⟩
    exact ⟨(k, p, i), (h.get k p i).1 hi, by simp⟩
  · rintro ⟨⟨k', p', i⟩, ht, hb⟩
    obtain ⟨rfl, rfl⟩ : k' = k ∧ p' = p := by simpa using hb
    exact ⟨i, (h.get k' p' i).2 ht⟩

/-- one round of `addKind5`; on the right, the round of `Cache.addKind5` -/
theorem regAdd_refines (r : Reg) (d : List (String × String × String)) (h : Rel r d) (k p i : String) :
    Rel (regAdd r k p i) (if d.contains (k, p, i) then d else (k, p, i) :: d) := by
  refine ⟨keys_regAdd r k p i h.keys, ok_regAdd r k p i h.ok, ?_⟩
  rintro ⟨k2, p2, i2⟩
  rw [mem_triples _ (keys_regAdd r k p i h.keys), rGet_regAdd]
  show _ ↔ _ ∈ d.insert (k, p, i)
  rw [List.mem_insert_iff]
  by_cases hkey : (k2, p2) = (k, p)
  · cases hkey
    rw [if_pos rfl, List.mem_insert_iff, h.get]
    simp only [Prod.mk.injEq, true_and]
  · rw [if_neg hkey, h.get]
    exact ⟨Or.inr, fun h' => h'.resolve_left fun he => hkey (by cases he; rfl)⟩

/-- one round of the clean-up in `delete` -/
theorem regDel_refines (r : Reg) (d : List (String × String × String)) (h : Rel r d) (k p i : String) :
    Rel (regDel r k p i) (d.filter (fun t => !(t.1 == k && t.2.1 == p && t.2.2 == i))) := by
  refine ⟨keys_regDel r k p i h.keys, ok_regDel r k p i h.ok, ?_⟩
  rintro ⟨k2, p2, i2⟩
  rw [mem_triples _ (keys_regDel r k p i h.keys), rGet_regDel, List.mem_filter]
  by_cases hkey : (k2, p2) = (k, p)
  · cases hkey
    rw [if_pos rfl, List.mem_filter, h.get]
    simp only [beq_self_eq_true, Bool.true_and, bne]
  · rw [if_neg hkey, h.get]
    refine ⟨fun ht => ⟨ht, ?_⟩, And.left⟩
    have : (k2 == k && p2 == p) = false := by
      rw [Bool.and_eq_false_iff, beq_eq_false_iff_ne, beq_eq_false_iff_ne]
      exact Classical.not_and_iff_not_or_not.1 fun he => hkey (by rw [he.1, he.2])
    simp only [this, Bool.false_and, Bool.not_false]

theorem addKind5_refines (e : Event) (refs : List String) :
    ∀ (r : Reg) (d : List (String × String × String)), Rel r d →
      Rel (refs.foldl (fun r k => regAdd r k e.pubkey e.id) r)
          (refs.foldl (fun d k => if d.contains (k, e.pubkey, e.id) then d else (k, e.pubkey, e.id) :: d) d) :=
  fun _ _ h => List.foldl_rel h fun k _ r d h => regAdd_refines r d h k e.pubkey e.id

/-- the registration `Cache.addKind5` performs is the abstract side of `addKind5_refines` -/
theorem addKind5_abstract (c : Cache) (e : Event) :
    (c.addKind5 e).deleted =
      (k5Refs e).foldl (fun d k => if d.contains (k, e.pubkey, e.id) then d else (k, e.pubkey, e.id) :: d) c.deleted := rfl

/-- the loop over the leaving request's references; the filter on the right is the one in `Cache.delete` -/
theorem cleanup_refines (cand : Event) (refs : List String) :
    ∀ (r : Reg) (d : List (String × String × String)), Rel r d →
      ∃ d', Rel (refs.foldl (fun r k => regDel r k cand.pubkey cand.id) r) d' ∧
        ∀ t, t ∈ d' ↔ t ∈ d.filter (fun t => !(refs.contains t.1 && t.2.1 == cand.pubkey && t.2.2 == cand.id)) := by
  induction refs with
  | nil => intro r d h; exact ⟨d, h, by intro t; simp⟩
  | cons k ks ih =>
    intro r d h
    obtain ⟨d', h', hm⟩ := ih _ _ (regDel_refines r d h k cand.pubkey cand.id)
    refine ⟨d', h', fun t => ?_⟩
    -- filtering out the triples of `k`, then those of `ks`, is filtering out those of `k :: ks`
    rw [hm, List.mem_filter, List.mem_filter, List.mem_filter, and_assoc, ← Bool.and_eq_true, List.contains_cons,
      Bool.and_assoc, Bool.and_assoc, Bool.and_assoc, Bool.and_or_distrib_right, Bool.not_or]

-- two requests naming one key: the first leaves, the entry stays; the second leaves, the entry goes
example : regIsDeleted (regDel (regAdd (regAdd [] "x" "a" "k1") "x" "a" "k2") "x" "a" "k1") "x" "a" = true := by decide
example : regIsDeleted (regDel (regDel (regAdd (regAdd [] "x" "a" "k1") "x" "a" "k2") "x" "a" "k1") "x" "a" "k2") "x" "a" = false := by decide

end Moc.C05R
