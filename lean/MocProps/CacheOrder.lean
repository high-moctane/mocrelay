/-
  The order of the cache's tree and the lists sorted by it.  `before` is a strict total order on (created_at, id);
  `insertOrd` puts the event in place and drops at most an element with the same (created_at, id)
  (`insertOrd_eq_append`), so it keeps a list sorted and, under injective ids, adds exactly the new event (`mem_insertOrd`,
  `mem_insAll`, `mem_sortOrd`: the iffs, over a universe `U` whose ids determine events; `…_of_mem_…`: the direction that
  needs no such universe); two sorted lists with the same members are equal (`sorted_ext`), so a sorted list is `sortOrd`
  of its members (`eq_sortOrd`); the first `k` elements after an insertion depend only on the first `k` before it
  (`take_insertOrd_take`).  `Find` (C03Find), the eviction victim (C05), the bound on a listing (C15) and the concrete
  store's tree (CacheCLemmas, C04Refine) rest on these.
-/
import MocModel.Cache
import MocProps.CacheLemmas

namespace Moc.C03

theorem before_iff (a b : Event) :
    before a b = true ↔ b.createdAt < a.createdAt ∨ (b.createdAt = a.createdAt ∧ b.id < a.id) := by
  simp [before, Gen.treeLess]

theorem before_irrefl (a : Event) : before a a = false :=
  Bool.eq_false_iff.2 fun h => ((before_iff a a).1 h).elim (Int.lt_irrefl _) fun h => String.lt_irrefl _ h.2

theorem before_trans {a b c : Event} (h1 : before a b = true) (h2 : before b c = true) : before a c = true := by
  rw [before_iff] at *
  rcases h1 with h1 | ⟨e1, l1⟩ <;> rcases h2 with h2 | ⟨e2, l2⟩
  · exact Or.inl (Int.lt_trans h2 h1)
  · exact Or.inl (e2 ▸ h1)
  · exact Or.inl (e1 ▸ h2)
  · exact Or.inr ⟨e2.trans e1, String.lt_trans l2 l1⟩

theorem before_asymm {a b : Event} (h : before a b = true) : before b a = false :=
  Bool.eq_false_iff.2 fun hb => Bool.false_ne_true ((before_irrefl a).symm.trans (before_trans h hb))

theorem before_congr_left {a a' : Event} (b : Event) (hc : a.createdAt = a'.createdAt) (hi : a.id = a'.id) :
    before a b = before a' b := by simp [before, hc, hi]

theorem before_total {a b : Event} (h1 : before a b = false) (h2 : before b a = false) :
    a.createdAt = b.createdAt ∧ a.id = b.id := by
  have n1 := fun h => Bool.false_ne_true (h1 ▸ (before_iff a b).2 h)
  have n2 := fun h => Bool.false_ne_true (h2 ▸ (before_iff b a).2 h)
  have hc : a.createdAt = b.createdAt :=
    Int.le_antisymm (Int.not_lt.1 fun h => n1 (Or.inl h)) (Int.not_lt.1 fun h => n2 (Or.inl h))
  exact ⟨hc, String.le_antisymm (String.not_lt.1 fun h => n1 (Or.inr ⟨hc.symm, h⟩))
    (String.not_lt.1 fun h => n2 (Or.inr ⟨hc, h⟩))⟩

theorem oldestOf_max (l : List Event) (o : Event) (h : oldestOf l = some o) : ∀ x ∈ l, before o x = false := by
  induction l generalizing o with
  | nil => cases h
  | cons e es ih =>
    intro x hx
    rcases CacheL.oldestOf_cons e es with ⟨hn, h'⟩ | ⟨o', ho', h'⟩ <;> cases h'.symm.trans h
    · cases CacheL.oldestOf_none es hn
      cases List.mem_singleton.1 hx
      exact before_irrefl _
    · by_cases hb : before o' e = true
      · rw [if_pos hb]
        rcases List.mem_cons.1 hx with rfl | hx
        · exact before_irrefl _
        · exact Bool.eq_false_iff.2 fun hbx => Bool.false_ne_true ((ih o' ho' x hx).symm.trans (before_trans hb hbx))
      · rw [if_neg hb]
        rcases List.mem_cons.1 hx with rfl | hx
        · exact Bool.eq_false_iff.2 hb
        · exact ih o' ho' x hx

/-- ids determine events (what authenticity provides): over such a universe the tree order is total -/
def IdInj (U : List Event) : Prop := ∀ a ∈ U, ∀ b ∈ U, a.id = b.id → a = b

def Sorted (l : List Event) : Prop := l.Pairwise (fun a b => before a b = true)

theorem insertOrd_cons (e x : Event) :
    before e x = true ∧ (∀ xs, insertOrd e (x :: xs) = e :: x :: xs) ∨
    before x e = true ∧ (∀ xs, insertOrd e (x :: xs) = x :: insertOrd e xs) ∨
    (x.createdAt = e.createdAt ∧ x.id = e.id) ∧ ∀ xs, insertOrd e (x :: xs) = e :: xs := by
  by_cases h1 : before e x = true
  · exact Or.inl ⟨h1, fun _ => by rw [insertOrd, if_pos h1]⟩
  · by_cases h2 : before x e = true
    · exact Or.inr (Or.inl ⟨h2, fun _ => by rw [insertOrd, if_neg h1, if_pos h2]⟩)
    · exact Or.inr (Or.inr ⟨before_total (Bool.eq_false_iff.2 h2) (Bool.eq_false_iff.2 h1),
        fun _ => by rw [insertOrd, if_neg h1, if_neg h2]⟩)

theorem insertOrd_eq_append (e : Event) (l : List Event) :
    ∃ a b, insertOrd e l = a ++ e :: b ∧
      (l = a ++ b ∨ ∃ x, l = a ++ x :: b ∧ x.createdAt = e.createdAt ∧ x.id = e.id) := by
  induction l with
  | nil => exact ⟨[], [], rfl, Or.inl rfl⟩
  | cons x xs ih =>
    rcases insertOrd_cons e x with ⟨_, h⟩ | ⟨_, h⟩ | ⟨hk, h⟩ <;> rw [h]
    · exact ⟨[], x :: xs, rfl, Or.inl rfl⟩
    · obtain ⟨a, b, h, hl⟩ := ih
      exact ⟨x :: a, b, congrArg (x :: ·) h,
        hl.imp (congrArg (x :: ·)) fun ⟨y, hl, hy⟩ => ⟨y, congrArg (x :: ·) hl, hy⟩⟩
    · exact ⟨[], xs, rfl, Or.inr ⟨x, rfl, hk⟩⟩

theorem eq_or_mem_of_mem_insertOrd {e : Event} {l : List Event} {y : Event} (h : y ∈ insertOrd e l) : y = e ∨ y ∈ l := by
  obtain ⟨a, b, h', hl⟩ := insertOrd_eq_append e l
  rw [h', List.mem_append, List.mem_cons] at h
  rcases hl with rfl | ⟨x, rfl, _⟩
  · exact h.elim (fun h => Or.inr (List.mem_append_left _ h)) (Or.imp_right (List.mem_append_right _))
  · exact h.elim (fun h => Or.inr (List.mem_append_left _ h))
      (Or.imp_right fun h => List.mem_append_right _ (List.mem_cons_of_mem _ h))

theorem length_insertOrd_le (e : Event) (l : List Event) : (insertOrd e l).length ≤ l.length + 1 := by
  obtain ⟨a, b, h', rfl | ⟨x, rfl, _⟩⟩ := insertOrd_eq_append e l <;>
    rw [h', List.length_append, List.length_append, List.length_cons]
  · exact Nat.le_refl _
  · exact Nat.le_succ _

theorem mem_insertOrd {U : List Event} (hU : IdInj U) {e : Event} {l : List Event} (he : e ∈ U)
    (hl : ∀ x ∈ l, x ∈ U) {y : Event} : y ∈ insertOrd e l ↔ y = e ∨ y ∈ l := by
  obtain ⟨a, b, h', h⟩ := insertOrd_eq_append e l
  rw [h']
  rcases h with rfl | ⟨x, rfl, hx⟩
  · simp only [List.mem_append, List.mem_cons]; exact or_left_comm
  · -- the element dropped has the id of `e`, so it is `e`
    cases hU x (hl x (by simp)) e he hx.2
    simp only [List.mem_append, List.mem_cons, or_left_comm, or_self_left]

theorem length_insertOrd_new (e : Event) (l : List Event) (hnew : ∀ y ∈ l, y.id ≠ e.id) :
    (insertOrd e l).length = l.length + 1 := by
  obtain ⟨a, b, h', rfl | ⟨x, rfl, hx⟩⟩ := insertOrd_eq_append e l
  · rw [h', List.length_append, List.length_append, List.length_cons]; rfl
  · exact absurd hx.2 (hnew x (by simp))

theorem insertOrd_sorted (e : Event) (l : List Event) (h : Sorted l) : Sorted (insertOrd e l) := by
  induction l with
  | nil => exact List.pairwise_singleton ..
  | cons x xs ih =>
    obtain ⟨hx, hxs⟩ := List.pairwise_cons.1 h
    rcases insertOrd_cons e x with ⟨h1, h'⟩ | ⟨h2, h'⟩ | ⟨hk, h'⟩ <;> rw [h']
    · refine List.pairwise_cons.2 ⟨fun y hy => ?_, h⟩
      rcases List.mem_cons.1 hy with rfl | hy
      · exact h1
      · exact before_trans h1 (hx y hy)
    · refine List.pairwise_cons.2 ⟨fun y hy => ?_, ih hxs⟩
      rcases eq_or_mem_of_mem_insertOrd hy with rfl | hy
      · exact h2
      · exact hx y hy
    · exact List.pairwise_cons.2 ⟨fun y hy => before_congr_left y hk.1 hk.2 ▸ hx y hy, hxs⟩

theorem take_insertOrd_take (e : Event) (k : Nat) (l : List Event) :
    (insertOrd e (l.take k)).take k = (insertOrd e l).take k := by
  induction l generalizing k with
  | nil => rw [List.take_nil]
  | cons x xs ih =>
    cases k with
    | zero => rfl
    | succ k =>
      rw [List.take_succ_cons]
      rcases insertOrd_cons e x with ⟨_, h⟩ | ⟨_, h⟩ | ⟨_, h⟩ <;> simp only [h, List.take_succ_cons]
      · -- `x :: xs.take k` is `(x :: xs).take (k + 1)`
        exact congrArg _ ((List.take_take (j := k + 1) (l := x :: xs)).trans (by rw [Nat.min_eq_left (Nat.le_succ k)]))
      · rw [ih]
      · rw [List.take_take, Nat.min_self]

/-- C03's "without duplicates and ordered by non-increasing created_at", of any list in tree order; an answer of `Find`
    is one (`find_eq_spec`) -/
theorem sorted_desc (l : List Event) (h : Sorted l) :
    l.Pairwise (fun a b => a.createdAt ≥ b.createdAt) ∧ l.Nodup := by
  constructor
  · exact h.imp fun hab => ((before_iff _ _).1 hab).elim Int.le_of_lt fun h => Int.le_of_eq h.1
  · exact h.imp (fun hab heq => by subst heq; rw [before_irrefl] at hab; cases hab)

theorem sorted_ext (l1 l2 : List Event) (h1 : Sorted l1) (h2 : Sorted l2) (hm : ∀ x, x ∈ l1 ↔ x ∈ l2) : l1 = l2 :=
  List.Perm.eq_of_pairwise (fun a b _ _ hab hba => by rw [before_asymm hab] at hba; cases hba) h1 h2
    ((List.perm_ext_iff_of_nodup (sorted_desc l1 h1).2 (sorted_desc l2 h2).2).2 hm)

abbrev insAll (ms acc : List Event) : List Event := ms.foldl (fun t e => insertOrd e t) acc

theorem insAll_sorted (es tree : List Event) (h : Sorted tree) : Sorted (insAll es tree) :=
  List.foldlRecOn es _ h fun t ht e _ => insertOrd_sorted e t ht

theorem mem_or_mem_of_mem_insAll {es tree : List Event} {y : Event} (h : y ∈ insAll es tree) : y ∈ es ∨ y ∈ tree :=
  List.foldlRecOn (motive := fun t => y ∈ t → y ∈ es ∨ y ∈ tree) es _ Or.inr
    (fun _ ih _ he hy => (eq_or_mem_of_mem_insertOrd hy).elim (fun h => Or.inl (h ▸ he)) ih) h

theorem length_insAll_le (ms acc : List Event) : (insAll ms acc).length ≤ acc.length + ms.length := by
  induction ms generalizing acc with
  | nil => exact Nat.le_refl _
  | cons m ms ih =>
    exact Nat.le_trans (ih (insertOrd m acc))
      (Nat.le_trans (Nat.add_le_add_right (length_insertOrd_le m acc) _) (Nat.le_of_eq (Nat.add_right_comm ..)))

theorem mem_insAll {U : List Event} (hU : IdInj U) {es tree : List Event} (hes : ∀ x ∈ es, x ∈ U)
    (ht : ∀ x ∈ tree, x ∈ U) {y : Event} : y ∈ insAll es tree ↔ y ∈ es ∨ y ∈ tree := by
  induction es generalizing tree with
  | nil => simp
  | cons e es ih =>
    have he := hes e List.mem_cons_self
    have ht' : ∀ x ∈ insertOrd e tree, x ∈ U := fun x hx =>
      (eq_or_mem_of_mem_insertOrd hx).elim (fun h => h ▸ he) (ht x)
    rw [insAll, List.foldl_cons, ih (fun x hx => hes x (List.mem_cons_of_mem _ hx)) ht', mem_insertOrd hU he ht,
      List.mem_cons, or_left_comm, or_assoc]

theorem sortOrd_sorted (es : List Event) : Sorted (sortOrd es) := insAll_sorted es [] List.Pairwise.nil

theorem mem_of_mem_sortOrd {es : List Event} {y : Event} (h : y ∈ sortOrd es) : y ∈ es :=
  (mem_or_mem_of_mem_insAll h).resolve_right List.not_mem_nil

theorem length_sortOrd_le (es : List Event) : (sortOrd es).length ≤ es.length :=
  Nat.le_trans (length_insAll_le es []) (Nat.le_of_eq (Nat.zero_add _))

theorem mem_sortOrd {U : List Event} (hU : IdInj U) {es : List Event} (hes : ∀ x ∈ es, x ∈ U) {y : Event} :
    y ∈ sortOrd es ↔ y ∈ es :=
  (mem_insAll hU hes fun _ h => absurd h List.not_mem_nil).trans (or_iff_left List.not_mem_nil)

theorem eq_sortOrd {U : List Event} (hU : IdInj U) {l es : List Event} (hl : Sorted l) (hes : ∀ x ∈ es, x ∈ U)
    (hm : ∀ x, x ∈ l ↔ x ∈ es) : l = sortOrd es :=
  sorted_ext _ _ hl (sortOrd_sorted es) fun x => (hm x).trans (mem_sortOrd hU hes).symm

theorem sortOrd_filter {U : List Event} (hU : IdInj U) {es : List Event} (hes : ∀ x ∈ es, x ∈ U) (p : Event → Bool) :
    (sortOrd es).filter p = sortOrd (es.filter p) :=
  eq_sortOrd hU (List.Pairwise.filter p (sortOrd_sorted es)) (fun x hx => hes x (List.mem_filter.1 hx).1)
    fun x => by rw [List.mem_filter, List.mem_filter, mem_sortOrd hU hes]

theorem take_insAll_congr (ms : List Event) (k : Nat) (a b : List Event) (h : a.take k = b.take k) :
    (insAll ms a).take k = (insAll ms b).take k := by
  induction ms generalizing a b with
  | nil => exact h
  | cons m ms ih => exact ih _ _ (by rw [← take_insertOrd_take m k a, ← take_insertOrd_take m k b, h])

end Moc.C03
