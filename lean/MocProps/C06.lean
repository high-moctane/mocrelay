/-
  C06 — SQLite store: each query equals the filter spec over stored, live events.

  Model: MocModel/Sqlite.lean — the five tables as lists, the statements of one batch (`Db.insertOne`,
  `Db.insertBatch`), the per-filter sub-select (`Db.rowMatches`, `Db.candidates`).  The row-building tests are
  regenerated from insert.go; the SQL text, the query builder and the DDL are pinned (`sqlite_source_pinned`) and
  their semantics is modelled by hand — tied to SQLite/goqu/database/sql by the correspondence on a real database,
  where every answer is judged after every batch.  Partial by construction.

  This file: facts about one row, one event, one filter.  Histories of batches are in C06Tables, C06Tombs and
  C06Query, the last step of a query (`order by … limit`, union) in C06Answer.
-/
import MocModel.Sqlite
import MocModel.Spec.Sqlite
import MocProps.SqliteLemmas
import MocProps.C06Answer

namespace Moc.C06

theorem sqlite_source_pinned : sqliteActualSource = sqliteExpectedSource := rfl

theorem hidden_row_never_matches (db : Db) (f : Filter) (r : ERow) (h : db.hidden r = true) (b : Bool)
    (hm : db.rowMatches f r = some b) : b = false := by
  unfold Db.rowMatches at hm
  split at hm
  · rw [← Option.some.inj hm, Db.rowTest, h]
    rfl
  · cases hm

theorem hidden_iff (db : Db) (r : ERow) :
    db.hidden r = true ↔ (r.key, r.pubkey) ∈ db.delKeys ∨ (r.id, r.pubkey) ∈ db.delIds := by
  simp [Db.hidden]

theorem upsert_replaces_iff (old new : ERow) :
    upsertReplaces old new = true ↔
      old.id ≠ new.id ∧ old.createdAt < new.createdAt ∧
      (old.kind = 0 ∨ old.kind = 3 ∨ (10000 ≤ old.kind ∧ old.kind < 20000) ∨ (30000 ≤ old.kind ∧ old.kind < 40000)) := by
  simp only [upsertReplaces, Bool.and_eq_true, Bool.or_eq_true, bne_iff_ne, ne_eq, decide_eq_true_eq, beq_iff_eq, or_assoc]
  exact ⟨fun ⟨⟨h1, h2⟩, h3⟩ => ⟨h1, h3, h2⟩, fun ⟨h1, h3, h2⟩ => ⟨⟨h1, h2⟩, h3⟩⟩

theorem ephemeral_not_stored (e : Event) (h : eventType e.kind = .ephemeral) : buildParams e = none := by
  simp [buildParams, sqlKey, h]

theorem insertOne_noop (db : Db) (p : Params) (old : ERow)
    (hf : db.events.find? (fun r => r.key == p.row.key) = some old) (hn : upsertReplaces old p.row = false) :
    db.insertOne p = db :=
  C14.settled_noop db p ⟨old, hf, hn⟩

/-- the two tombstone tables are not covered -/
theorem insertOne_fresh (db : Db) (p : Params) (hf : db.events.find? (fun r => r.key == p.row.key) = none) :
    (db.insertOne p).events = db.events ++ [p.row] ∧
    (db.insertOne p).payloads = db.payloads ++ [(p.row.key, p.payload)] ∧
    (db.insertOne p).tags = db.tags ++ p.tagRows := by
  -- read off the definition, as `C14.settled_noop` is: in `insertOne_cases` the two cases with a row would have to be refuted
  simp [Db.insertOne, hf]

/-- a filter with limit 0 obliges an answer to nothing: its slot's `sure` list is empty -/
theorem limit_zero_contributes_nothing (c : Cand) (h : c.limit = some 0) :
    (SqliteSpec.slotOf c).sure = [] ∨ c.ms = [] := by
  by_cases hl : c.ms.length ≤ 0
  · exact .inr (List.length_eq_zero_iff.1 (Nat.le_zero.1 hl))
  · exact .inl (by rw [C06A.slotOf_zero h hl])

def toCls : EventType → SqliteSpec.Cls
  | .regular => .regular
  | .replaceable => .replaceable
  | .ephemeral => .ephemeral
  | .addressable => .addressable

/-- the classification the row builders use (`Event.EventType`, regenerated) is the statement's -/
theorem eventType_eq_cls (k : Int) : toCls (eventType k) = SqliteSpec.cls k := by
  unfold eventType SqliteSpec.cls Gen.isReplaceableKind Gen.isEphemeralKind Gen.isAddressableKind
  rw [apply_ite toCls, apply_ite toCls, apply_ite toCls]
  rfl

end Moc.C06
