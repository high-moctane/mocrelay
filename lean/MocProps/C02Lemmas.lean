/-
  Lemmas about the matcher: the monitor `nip01MatchB` is the predicate `nip01Match`; over a Go map of `#x` conditions
  the `found` loop of `Match` collects exactly the names that have a hit; each test of `Match` is the negation of one
  conjunct of the monitor.  C02 is built on all of them.  `nip01MatchB_iff` also serves C03 and C16Restore, and
  `any_eq_hasTagB` is how the store's tag index (C03, `idxCandidate_eq`) and SQLite's tag rows (C06Query,
  `rowMatches_of_event`) are shown to decide a `#x` condition as the monitor does.
-/
import MocModel.Matcher
import MocModel.Spec.Nip01
import MocProps.ListFacts
import MocProps.ListMap
import Batteries.Data.List.Perm

namespace Moc.C02

theorem hasTagB_iff (e : Event) (k : String) (vs : List String) :
    hasTagB e k vs = true ↔ hasTag e k vs := by
  unfold hasTagB hasTag
  simp [List.any_eq_true]

/-- a table `T` of the (name `k`, value) pairs of an event's tags decides the condition `#k ∈ vs` as the monitor does
    (the store's secondary index and SQLite's tag rows are such tables) -/
theorem any_eq_hasTagB (e : Event) (k : String) (vs : List String) (T : String → Bool)
    (hT : ∀ v, T v = true ↔ ∃ t ∈ e.tags, tagName? t = some k ∧ tagValue t = v) :
    vs.any T = hasTagB e k vs := by
  rw [Bool.eq_iff_iff, hasTagB_iff]
  simp only [List.any_eq_true, hT, hasTag]
  exact ⟨fun ⟨v, hv, t, ht, hn, hval⟩ => ⟨t, ht, hn, hval ▸ hv⟩, fun ⟨t, ht, hn, hv⟩ => ⟨_, hv, t, ht, hn, rfl⟩⟩

theorem listedOr_true_iff {α} [BEq α] [LawfulBEq α] (o : Option (List α)) (x : α) :
    listedOr true o x = true ↔ ∀ l, o = some l → x ∈ l := by
  cases o <;> simp [listedOr]

theorem tagsOkB_iff (o : Option (List (String × List String))) (e : Event) :
    tagsOkB o e = true ↔ ∀ l, o = some l → ∀ c ∈ l, hasTag e c.1 c.2 := by
  cases o <;> simp only [tagsOkB, List.all_eq_true, hasTagB_iff, Option.some.injEq, forall_eq', reduceCtorEq,
    false_implies, implies_true]

theorem sinceOkB_iff (o : Option Int) (c : Int) : sinceOkB o c = true ↔ ∀ s, o = some s → s ≤ c := by
  cases o <;> simp [sinceOkB]

theorem untilOkB_iff (o : Option Int) (c : Int) : untilOkB o c = true ↔ ∀ u, o = some u → c ≤ u := by
  cases o <;> simp [untilOkB]

theorem nip01MatchB_iff (f : Filter) (e : Event) : nip01MatchB f e = true ↔ nip01Match f e := by
  simp only [nip01MatchB, nip01Match, Bool.and_eq_true, and_assoc, listedOr_true_iff, tagsOkB_iff, sinceOkB_iff,
    untilOkB_iff]

theorem loop_value : ∀ t : List String, loopValue t = tagValue t
  | [] | [_] => rfl
  | _ :: _ :: r => if_pos (decide_eq_true (Int.ofNat_le.2 (Nat.le_add_left 2 r.length)))

theorem condListed_of_mem {conds : List (String × List String)} (hnd : (conds.map Prod.fst).Nodup)
    {c : String × List String} (hc : c ∈ conds) (v : String) : condListed conds c.1 v = c.2.contains v := by
  rw [condListed, (mem_iff_lookup_eq_some hnd).1 hc]

theorem mem_keys_of_condListed {conds : List (String × List String)} {k v : String}
    (h : condListed conds k v = true) : k ∈ conds.map Prod.fst := by
  unfold condListed at h
  cases hl : conds.lookup k with
  | none => simp [hl] at h
  | some vs => exact List.mem_map.2 ⟨(k, vs), mem_of_lookup_eq_some hl, rfl⟩

/-- some tag named `k` passes the loop's test `m.f.Tags[tag[0]][v]`: the names the loop leaves in `found` -/
def Hit (conds : List (String × List String)) (tags : List (List String)) (k : String) : Prop :=
  ∃ t ∈ tags, tagName? t = some k ∧ condListed conds k (tagValue t) = true

theorem Hit_cons (conds : List (String × List String)) (k : String) (rest : List String) (ts : List (List String))
    (k' : String) :
    Hit conds ((k :: rest) :: ts) k' ↔
      (k' = k ∧ condListed conds k (tagValue (k :: rest)) = true) ∨ Hit conds ts k' := by
  simp only [Hit, List.mem_cons, or_and_right, exists_or, exists_eq_left, tagName?, Option.some.injEq]
  refine or_congr ⟨?_, ?_⟩ Iff.rfl
  · rintro ⟨rfl, h⟩; exact ⟨rfl, h⟩
  · rintro ⟨rfl, h⟩; exact ⟨rfl, h⟩

/-- `found` after one round of the loop body, on a tag named `k` with value `v` -/
def foundStep (conds : List (String × List String)) (found : List String) (k v : String) : List String :=
  if !found.contains k && condListed conds k v then k :: found else found

theorem foundLoop_cons (conds : List (String × List String)) (k : String) (rest : List String)
    (ts : List (List String)) (found : List String) :
    foundLoop conds ((k :: rest) :: ts) found =
      foundLoop conds ts (foundStep conds found k (tagValue (k :: rest))) := by
  rw [foundLoop, loop_value, foundStep]
  cases found.contains k <;> cases condListed conds k (tagValue (k :: rest)) <;> rfl

theorem mem_foundStep (conds : List (String × List String)) (found : List String) (k v k' : String) :
    k' ∈ foundStep conds found k v ↔ k' ∈ found ∨ (k' = k ∧ condListed conds k v = true) := by
  unfold foundStep
  cases condListed conds k v
  · simp
  · by_cases hk : k ∈ found
    · -- already found: nothing is added, and `k` itself is in `found`
      simpa [hk] using fun h : k' = k => h ▸ hk
    · simp [hk, or_comm]

theorem nodup_foundStep (conds : List (String × List String)) {found : List String} (h : found.Nodup)
    (k v : String) : (foundStep conds found k v).Nodup := by
  unfold foundStep
  by_cases hk : k ∈ found <;> cases condListed conds k v <;> simp [hk, h]

theorem foundLoop_spec (conds : List (String × List String)) :
    ∀ (tags : List (List String)) (found : List String),
      (∀ t ∈ tags, t ≠ []) → found.Nodup →
      ∃ r, foundLoop conds tags found = .ok r ∧ r.Nodup ∧
        ∀ k, k ∈ r ↔ (k ∈ found ∨ Hit conds tags k) := by
  intro tags
  induction tags with
  | nil => exact fun found _ hnd => ⟨found, rfl, hnd, by simp [Hit]⟩
  | cons t ts ih =>
    intro found hne hnd
    cases t with
    | nil => exact absurd rfl (hne [] (by simp))
    | cons k rest =>
      obtain ⟨r, hr, hrnd, hrm⟩ := ih (foundStep conds found k (tagValue (k :: rest)))
        (fun t ht => hne t (List.mem_cons_of_mem _ ht)) (nodup_foundStep conds hnd _ _)
      exact ⟨r, foundLoop_cons .. ▸ hr, hrnd, fun k' => by rw [hrm, mem_foundStep, Hit_cons, or_assoc]⟩

/-- why `len(found) < len(m.f.Tags)` decides whether every name was found: `found` holds distinct names of the map -/
theorem length_le_iff_subset {α} {r keys : List α} (hr : r.Nodup) (hk : keys.Nodup) (hsub : r ⊆ keys) :
    keys.length ≤ r.length ↔ keys ⊆ r :=
  ⟨fun h _ hk' => ((List.subperm_of_subset hr hsub).perm_of_length_le h).mem_iff.2 hk', hk.length_le_of_subset⟩

/-- a test that is the negation of `a` and answers `false` contributes the conjunct `a` -/
theorem reject_step (a r : Bool) : (if (!a) = true then Res.ok false else Res.ok r) = .ok (a && r) := by
  cases a <;> rfl

/-- the ids, kinds and authors tests (`Gen.idsReject` etc. are this expression by definition) -/
theorem listed_step {α} [BEq α] (o : Option (List α)) (x : α) :
    (o.isSome && !listedOr false o x) = !listedOr true o x := by
  cases o <;> rfl

theorem since_step (o : Option Int) (c : Int) :
    (Gen.sinceChecked o.isSome && Gen.sinceReject c (o.getD 0)) = !sinceOkB o c := by
  cases o
  · rfl
  · exact lt_eq_not_le ..

theorem until_step (o : Option Int) (c : Int) :
    (Gen.untilChecked o.isSome && Gen.untilReject c (o.getD 0)) = !untilOkB o c := by
  cases o
  · rfl
  · exact lt_eq_not_le ..

/-- the loop never panics on events without empty tags, and the `len(found) < len(m.f.Tags)` test is the negation of
    "every #x condition has a hit" -/
theorem tags_step (f : Filter) (e : Event) (hwf : f.WF) (hne : ∀ t ∈ e.tags, t ≠ []) :
    ∃ r, foundLoop (f.tags.getD []) e.tags [] = .ok r ∧
      (if Gen.tagsChecked f.tags.isSome then
          (Res.ok (Gen.tagsReject r.length (f.tags.getD []).length) : Res Bool) else .ok false)
        = .ok (!(tagsOkB f.tags e)) := by
  obtain ⟨r, hr, hrnd, hrm⟩ := foundLoop_spec (f.tags.getD []) e.tags [] hne List.nodup_nil
  refine ⟨r, hr, ?_⟩
  cases htags : f.tags with
  | none => rfl
  | some conds =>
    simp only [htags, Option.getD_some, List.not_mem_nil, false_or] at hrm
    have hnd : (conds.map Prod.fst).Nodup := hwf conds htags
    have hsub : r ⊆ conds.map Prod.fst := fun k hk => by
      obtain ⟨t, _, _, h⟩ := (hrm k).1 hk
      exact mem_keys_of_condListed h
    -- under its own key an entry is hit exactly by the tags the spec asks for
    have hhit : ∀ c ∈ conds, c.1 ∈ r ↔ hasTag e c.1 c.2 := fun c hc => by
      simp only [hrm, Hit, hasTag, condListed_of_mem hnd hc, List.contains_iff_mem]
    have hall : conds.map Prod.fst ⊆ r ↔ tagsOkB (some conds) e = true := by
      simp only [tagsOkB_iff, Option.some.injEq, forall_eq', List.subset_def, List.forall_mem_map]
      exact forall₂_congr hhit
    refine congrArg Res.ok ((lt_eq_not_le ..).trans (congrArg (!·) (Bool.eq_iff_iff.2 ?_)))
    rw [decide_eq_true_eq, Int.ofNat_le, Option.getD_some, ← List.length_map Prod.fst,
      length_le_iff_subset hrnd hnd hsub, hall]

end Moc.C02
