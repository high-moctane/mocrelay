/-
  C20 — HTTP front door: request routing and the NIP-11 document.
  Model: MocModel/Http.lean (header tests regenerated from server.go / nip11.go).
  The NIP-11 struct (de)serialisation is encoding/json's reflection encoder: runtime-validated;
  the repo's own code in that path is `Nip11Kind`, proved here.  net/http (`Header.Get`, the response writer) is trusted.
-/
import MocModel.Spec.Http

namespace Moc.C20

theorem route_spec (upgrade accept : String) (hasNip11 hasDefault : Bool) :
    route upgrade accept hasNip11 hasDefault =
      routeSpec (upgrade != "") (accept == "application/nostr+json") hasNip11 hasDefault := by
  -- with the configuration fixed both sides are the same cascade over the same two header tests
  cases hasNip11 <;> cases hasDefault <;> rfl

/-- `ServeMux.ServeHTTP` and `NIP11.ServeHTTP` each test the Accept header; the two tests agree, so a request routed to the
    document is answered by it and not with 400 -/
theorem routed_to_doc_is_answered (upgrade accept : String) (hasDefault : Bool)
    (h : route upgrade accept true hasDefault = .nip11Doc) : nip11Answers accept = true := by
  rw [route_spec] at h
  -- `nip11Answers accept` is `!(accept != …)`, the routing test `accept == …` negated twice
  refine (Bool.not_not _).trans ?_
  cases ha : accept == "application/nostr+json"
  · -- without the Accept test no branch leads to the document
    rw [ha] at h
    revert h
    cases upgrade != "" <;> cases hasDefault <;> exact nofun
  · rfl

theorem nip11_headers :
    nip11Headers = [("Content-Type", "application/nostr+json"), ("Access-Control-Allow-Origin", "*")] := by
  rfl

/-- `hf`, `ht`: the bounds are within Go's int; the second clause: a single number exactly when `From = To`, else a pair -/
theorem kind_roundtrip (k : Kind) (hf : inInt64 k.from_ = true) (ht : inInt64 k.to = true) :
    unmarshalKind (marshalKind k) = .ok k ∧
    ((∃ i, marshalKind k = .int i) ↔ k.from_ = k.to) := by
  obtain ⟨f, t⟩ := k
  simp only [marshalKind, Gen.kindSingle]
  by_cases h : f = t
  · subst h
    simp [unmarshalKind, hf]
  · have hb : (f == t) = false := by simpa using h
    simp [hb, unmarshalKind, Gen.kindPairLenBad, hf, ht, h]

/-- That `UnmarshalJSON` never panics is no theorem: the result type of `unmarshalKind` has no such outcome. -/
theorem kind_pair_arity (a : List JT) (h : a.length ≠ 2) : ∃ e, unmarshalKind (.arr a) = .error e := by
  have : Gen.kindPairLenBad a.length = true := bne_iff_ne.2 (by omega)
  exact ⟨"expected 2 elements", by unfold unmarshalKind; exact if_pos this⟩

example : inInt64 30000 = true ∧ inInt64 39999 = true ∧ (⟨30000, 39999⟩ : Kind).from_ ≠ (⟨30000, 39999⟩ : Kind).to := by
  decide

end Moc.C20
