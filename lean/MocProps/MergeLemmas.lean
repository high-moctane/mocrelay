/- Lemmas about MocModel/Merge.lean that C07, C08 and C09 share: the association-list maps (`alGet` / `alSet` / `alErase`) as Go
   maps, and what the EOSE/EVENT half of `handleSendMsg` (the methods of `mergeHandlerSessionReqState`) does by the state it
   finds: as one equation (`sendEose_eq`, `sendableEvent_eq`), as a case distinction (`…_cases`), and that it changes the
   subscription table only, not the two pending tables or the number of children (`…_tables`). -/
import MocModel.Merge
import MocProps.ListMap

namespace Moc

variable {β : Type}

theorem alGet_alErase_ne (l : List (String × β)) (k k' : String) (h : k' ≠ k) :
    alGet (alErase l k) k' = alGet l k' := lookup_filter_ne l h

theorem alGet_alErase_self (l : List (String × β)) (k : String) : alGet (alErase l k) k = none :=
  lookup_filter_self l k

theorem alGet_alSet_self (l : List (String × β)) (k : String) (v : β) : alGet (alSet l k v) k = some v :=
  List.lookup_cons_self

theorem alGet_alSet_ne (l : List (String × β)) (k k' : String) (v : β) (h : k' ≠ k) :
    alGet (alSet l k v) k' = alGet l k' := lookup_set_ne l v h

theorem allEose_eq (st : MergeSt) (sub : String) :
    allEose st sub =
      match alGet st.req sub with
      | none => (st, true)
      | some r => if r.eose.contains false then (st, false) else ({ st with req := alErase st.req sub }, true) := by
  unfold allEose
  cases alGet st.req sub with
  | none => rfl
  | some r =>
    show (if (!r.eose.contains false) = true then _ else _) = if r.eose.contains false = true then _ else _
    cases r.eose.contains false <;> rfl

theorem allEose_absent {st : MergeSt} {sub : String} (h : alGet st.req sub = none) : allEose st sub = (st, true) := by
  rw [allEose_eq, h]

theorem allEose_present {st : MergeSt} {sub : String} {r : ReqSub} (h : alGet st.req sub = some r) :
    allEose st sub = if r.eose.contains false then (st, false) else ({ st with req := alErase st.req sub }, true) := by
  rw [allEose_eq, h]

/-- the `len(x) == 0` tests of handler.go on a slice that has an element -/
theorem length_beq_zero {α : Type} (a : α) (l : List α) : (((a :: l).length : Int) == 0) = false :=
  beq_false_of_ne (Int.ofNat_ne_zero.2 (Nat.succ_ne_zero _))

/-- in particular an open subscription has flags, so `SetEOSE` / `IsEOSE` do not take their `len == 0` exit -/
theorem length_beq_zero_of_contains {α : Type} [BEq α] {l : List α} {a : α} (h : l.contains a = true) :
    ((l.length : Int) == 0) = false := by
  cases l with
  | nil => cases h
  | cons b l => exact length_beq_zero b l

theorem setEose_open (st : MergeSt) (sub : String) (i : Nat) (r : ReqSub) (h : alGet st.req sub = some r)
    (hopen : r.eose.contains false = true) :
    setEose st sub i = { st with req := alSet st.req sub { r with eose := r.eose.set i true } } := by
  rw [setEose, h]
  exact if_neg (Bool.eq_false_iff.1 (length_beq_zero_of_contains hopen))

/-- `handleSendEOSEMsg` by the state it finds.  The last case, a stored state with every flag set, is what a REQ leaves in a
    session without children; with children the `AllEOSE` that sees the last flag set deletes the state. -/
theorem sendEose_eq (st : MergeSt) (i : Nat) (sub : String) :
    sendEose st i sub =
      match alGet st.req sub with
      | none => (st, none)
      | some r =>
        if r.eose.contains false then
          if (r.eose.set i true).contains false
          then ({ st with req := alSet st.req sub { r with eose := r.eose.set i true } }, none)
          else ({ st with req := alErase (alSet st.req sub { r with eose := r.eose.set i true }) sub }, some (.eose sub))
        else ({ st with req := alErase st.req sub }, none) := by
  unfold sendEose
  cases h : alGet st.req sub with
  | none => rw [allEose_absent h]; rfl
  | some r =>
    rw [allEose_present h]
    dsimp only
    cases hopen : r.eose.contains false with
    | false => rfl
    | true =>
      have hset := setEose_open st sub i r h hopen
      have hb : allEose (setEose st sub i) sub = _ := allEose_present (by rw [hset]; exact alGet_alSet_self _ _ _)
      simp only [if_true, Gen.eoseAlready, Gen.eoseNotYet, hb]
      rw [hset]
      cases (r.eose.set i true).contains false <;> rfl

theorem sendEose_cases (st : MergeSt) (i : Nat) (sub : String) :
    (alGet st.req sub = none ∧ sendEose st i sub = (st, none)) ∨
    (∃ r, alGet st.req sub = some r ∧ r.eose.contains false = false ∧
      sendEose st i sub = ({ st with req := alErase st.req sub }, none)) ∨
    (∃ r, alGet st.req sub = some r ∧ r.eose.contains false = true ∧ (r.eose.set i true).contains false = true ∧
      sendEose st i sub = ({ st with req := alSet st.req sub { r with eose := r.eose.set i true } }, none)) ∨
    (∃ r, alGet st.req sub = some r ∧ r.eose.contains false = true ∧ (r.eose.set i true).contains false = false ∧
      sendEose st i sub =
        ({ st with req := alErase (alSet st.req sub { r with eose := r.eose.set i true }) sub }, some (.eose sub))) := by
  rw [sendEose_eq]
  cases alGet st.req sub with
  | none => exact .inl ⟨rfl, rfl⟩
  | some r =>
    dsimp only
    cases hopen : r.eose.contains false with
    | false => exact .inr (.inl ⟨r, rfl, hopen, rfl⟩)
    | true =>
      cases hc : (r.eose.set i true).contains false with
      | true => exact .inr (.inr (.inl ⟨r, rfl, hopen, hc, rfl⟩))
      | false => exact .inr (.inr (.inr ⟨r, rfl, hopen, hc, rfl⟩))

theorem sendEose_tables (st : MergeSt) (i : Nat) (sub : String) :
    (sendEose st i sub).1 = { st with req := (sendEose st i sub).1.req } := by
  rcases sendEose_cases st i sub with ⟨_, e⟩ | ⟨r, _, _, e⟩ | ⟨r, _, _, _, e⟩ | ⟨r, _, _, _, e⟩ <;> rw [e]

/-- `IsSendableEventMsg` by the state it finds -/
theorem sendableEvent_eq (st : MergeSt) (i : Nat) (sub : String) (e : Event) :
    sendableEvent st i sub e =
      match alGet st.req sub with
      | none => (st, .ok true)
      | some r =>
        if r.eose.contains false then
          if r.eose.getD i false then (st, .ok false)
          else ({ st with req := alSet st.req sub (subStep r e).1 }, (subStep r e).2)
        else ({ st with req := alErase st.req sub }, .ok true) := by
  unfold sendableEvent
  cases h : alGet st.req sub with
  | none => rw [allEose_absent h]; rfl
  | some r =>
    rw [allEose_present h]
    dsimp only
    cases hopen : r.eose.contains false with
    | false => rfl
    | true =>
      simp only [if_true, Gen.evAllEose, h, Gen.evChildEose, Gen.reqIsEose, length_beq_zero_of_contains hopen, Bool.false_or]
      rfl

theorem sendableEvent_cases (st : MergeSt) (i : Nat) (sub : String) (e : Event) :
    (alGet st.req sub = none ∧ sendableEvent st i sub e = (st, .ok true)) ∨
    (∃ r, alGet st.req sub = some r ∧ r.eose.contains false = false ∧
      sendableEvent st i sub e = ({ st with req := alErase st.req sub }, .ok true)) ∨
    (∃ r, alGet st.req sub = some r ∧ r.eose.contains false = true ∧ r.eose.getD i false = true ∧
      sendableEvent st i sub e = (st, .ok false)) ∨
    (∃ r, alGet st.req sub = some r ∧ r.eose.contains false = true ∧ r.eose.getD i false = false ∧
      sendableEvent st i sub e = ({ st with req := alSet st.req sub (subStep r e).1 }, (subStep r e).2)) := by
  rw [sendableEvent_eq]
  cases alGet st.req sub with
  | none => exact .inl ⟨rfl, rfl⟩
  | some r =>
    dsimp only
    cases hopen : r.eose.contains false with
    | false => exact .inr (.inl ⟨r, rfl, hopen, rfl⟩)
    | true =>
      cases hc : r.eose.getD i false with
      | true => exact .inr (.inr (.inl ⟨r, rfl, hopen, hc, rfl⟩))
      | false => exact .inr (.inr (.inr ⟨r, rfl, hopen, hc, rfl⟩))

theorem sendableEvent_tables (st : MergeSt) (i : Nat) (sub : String) (e : Event) :
    (sendableEvent st i sub e).1 = { st with req := (sendableEvent st i sub e).1.req } := by
  rcases sendableEvent_cases st i sub e with ⟨_, h⟩ | ⟨r, _, _, h⟩ | ⟨r, _, _, _, h⟩ | ⟨r, _, _, _, h⟩ <;> rw [h]

end Moc
