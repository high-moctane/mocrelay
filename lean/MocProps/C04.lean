/-
  C04 — In-memory store retention: capacity, no duplicates, newest version wins.

  Model: `Cache.add` (MocModel/Cache.lean), comparisons regenerated from event_cache.go / message.go.
  Proved for EVERY insertion history and every capacity ≥ 0: the retention invariant (`retention_all_histories`); per
  insertion, the flag and what enters (`flag_iff`, `add_subset`).  Why an event leaves is `C05.add_leaves`; that the
  store which maintains tree and index behaves the same is C04Refine.  The step relation of the statement,
  `CacheSpec.stepAllowed`, is only evaluated at run time, on the implementation's successive listings.
-/
import MocProps.CacheLemmas
import MocModel.Spec.Cache

namespace Moc.C04
open Moc.CacheL

/-- the clauses of C04 that speak of a state; the key (`eventKey`) is the id of a regular event and the address of a
    replaceable / addressable one -/
structure Inv1 (c : Cache) : Prop where
  keys : (c.evs.map eventKey).Nodup
  capOk : (c.evs.length : Int) ≤ c.cap
  noEph : ∀ x ∈ c.evs, eventType x.kind ≠ .ephemeral

theorem inv_empty (cap : Int) (h : 0 ≤ cap) : Inv1 { cap := cap } :=
  ⟨List.nodup_nil, by simpa using h, by intro x hx; cases hx⟩

theorem add_fst (c : Cache) (e : Event) :
    (c.add e).1 = c ∨ eventType e.kind ≠ .ephemeral ∧ ∃ c2, (c.add e).1 = evict c2 ∧ c2.cap = c.cap ∧
      c2.evs.Sublist (e :: c.evs.filter (fun y => eventKey y != eventKey e)) := by
  rcases add_cases c e with ⟨_, h⟩ | ⟨_, _, h⟩ | ⟨heph, _, _, c0, h0, hev, h⟩ <;> rw [h]
  · exact Or.inl rfl
  · exact Or.inl rfl
  · have hle := process_le { c0 with evs := e :: c0.evs } e
    obtain ⟨p, rfl⟩ := h0
    exact Or.inr ⟨heph, _, rfl, hle.1.trans (delete_cap ..), hev ▸ hle.2⟩

theorem add_inv (c : Cache) (e : Event) (h : Inv1 c) : Inv1 (c.add e).1 ∧ (c.add e).1.cap = c.cap := by
  rcases add_fst c e with h' | ⟨heph, c2, h', hcap, hsub⟩ <;> rw [h']
  · exact ⟨h, rfl⟩
  · -- distinct keys and "no ephemeral event" pass to sublists; the eviction restores the bound
    have hk2 := List.Pairwise.sublist (hsub.map eventKey) (keys_nodup_put c.evs e h.keys)
    have hle := evict_le c2
    have hlen : c2.evs.length ≤ c.evs.length + 1 :=
      Nat.le_trans hsub.length_le (Nat.succ_le_succ (List.length_filter_le ..))
    have hc := h.capOk
    refine ⟨⟨hle.keys hk2, ?_, fun x hx => ?_⟩, hle.1.trans hcap⟩
    · rw [hle.1]
      exact evict_length c2 hk2 (hcap ▸ Int.le_trans (Int.natCast_nonneg _) hc)
        (hcap ▸ Int.le_trans (Int.ofNat_le.2 hlen) (Int.add_le_add_right hc 1))
    · rcases List.mem_cons.1 (hsub.subset (hle.2.subset hx)) with rfl | hx'
      · exact heph
      · exact h.noEph x (List.mem_filter.1 hx').1

def run (c : Cache) (es : List Event) : Cache := es.foldl (fun c e => (c.add e).1) c

theorem run_props (P : Cache → Prop) (es : List Event) (hadd : ∀ c, ∀ e ∈ es, P c → P (c.add e).1) (c : Cache)
    (h : P c) : P (run c es) :=
  List.foldlRecOn es _ h fun c hc e he => hadd c e he hc

theorem retention_all_histories (cap : Int) (hcap : 0 ≤ cap) (es : List Event) :
    Inv1 (run { cap := cap } es) ∧ (run { cap := cap } es).cap = cap :=
  run_props (fun c => Inv1 c ∧ c.cap = cap) es
    (fun c e _ h => ⟨(add_inv c e h.1).1, (add_inv c e h.1).2.trans h.2⟩) _ ⟨inv_empty cap hcap, rfl⟩

theorem add_subset (c : Cache) (e : Event) : ∀ x ∈ (c.add e).1.evs, x ∈ c.evs ∨ x = e := by
  rcases add_fst c e with h' | ⟨_, c2, h', _, hsub⟩ <;> rw [h'] <;> intro x hx
  · exact Or.inl hx
  · rcases List.mem_cons.1 (hsub.subset ((evict_le c2).2.subset hx)) with rfl | h
    · exact Or.inr rfl
    · exact Or.inl (List.mem_filter.1 h).1

theorem run_empty_subset (cap : Int) (es : List Event) : ∀ x ∈ (run { cap := cap } es).evs, x ∈ es :=
  run_props (fun c => ∀ x ∈ c.evs, x ∈ es) es
    (fun c e he h x hx => (add_subset c e x hx).elim (h x) (· ▸ he)) _ fun _ hx => nomatch hx

/-- `hid` is what authenticity of events provides: the id is a hash of the other fields. -/
theorem no_id_twice (cap : Int) (hcap : 0 ≤ cap) (es : List Event)
    (hid : ∀ x ∈ es, ∀ y ∈ es, x.id = y.id → x = y) :
    ((run { cap := cap } es).evs.map (·.id)).Nodup := by
  have hsub := run_empty_subset cap es
  -- distinct keys, hence distinct events, hence distinct ids
  refine List.pairwise_map.2 ((List.pairwise_map.1 (retention_all_histories cap hcap es).1.keys).imp_of_mem ?_)
  intro x y hx hy hk hxy
  exact hk (congrArg eventKey (hid x (hsub x hx) y (hsub y hy) hxy))

theorem ephemeral_never_retained (c : Cache) (e : Event) (h : eventType e.kind = .ephemeral) :
    c.add e = (c, true) := by
  rw [add_eq_ite, if_pos (beq_iff_eq.2 h)]

/-- C04's clause on the flag.  On equal `created_at` the retained version stays (`old.CreatedAt >= event.CreatedAt`), a
    case the statement of the property leaves open. -/
theorem flag_iff (c : Cache) (e : Event) (h : eventType e.kind ≠ .ephemeral) :
    (c.add e).2 = true ↔
      (c.isDeleted (eventKey e) e.pubkey = false ∧ c.isDeleted e.id e.pubkey = false) ∧
      (∀ old, c.lookup (eventKey e) = some old → old.createdAt < e.createdAt) := by
  rw [← Bool.or_eq_false_iff]
  rcases add_cases c e with ⟨h', _⟩ | ⟨_, hr, h'⟩ | ⟨_, hb, hnew, _, _, _, h'⟩
  · exact absurd h' h
  · rw [h']
    refine iff_of_false Bool.false_ne_true fun ⟨hb, hnew⟩ => ?_
    rcases hr with hr | ⟨old, hl, hle⟩
    · rw [hb] at hr; cases hr
    · exact absurd (hnew old hl) (Int.not_lt.2 hle)
  · rw [h']
    exact iff_of_true rfl ⟨hb, hnew⟩

theorem not_new_no_change (c : Cache) (e : Event) (h : (c.add e).2 = false) : (c.add e).1 = c := by
  rcases add_cases c e with ⟨_, h'⟩ | ⟨_, _, h'⟩ | ⟨_, _, _, _, _, _, h'⟩ <;> rw [h'] at h ⊢
  cases h

/-- C04's "newer displaces, older never does", stated of the inner `add` (`addEv`): the deletion processing and the
    eviction that follow it in `Add` are not covered here. -/
theorem newer_displaces (c : Cache) (e old : Event) (hl : c.lookup (eventKey e) = some old) :
    (old.createdAt ≥ e.createdAt → c.addEv (eventKey e) e = (c, false)) ∧
    (old.createdAt < e.createdAt → (c.addEv (eventKey e) e).2 = true ∧ e ∈ (c.addEv (eventKey e) e).1.evs ∧
      old ∉ (c.addEv (eventKey e) e).1.evs ∨ old = e) := by
  rcases addEv_cases c (eventKey e) e with ⟨⟨o, ho, hle⟩, h'⟩ | ⟨hlt, c0, _, hevs, h'⟩ <;> rw [h']
  · rw [hl] at ho; cases ho
    exact ⟨fun _ => rfl, fun h => absurd hle (Int.not_le.2 h)⟩
  · have hlt := hlt old hl
    refine ⟨fun h => absurd h (Int.not_le.2 hlt), fun _ => Or.inl ⟨rfl, List.mem_cons_self, fun hm => ?_⟩⟩
    rcases List.mem_cons.1 hm with rfl | hm
    · exact Int.lt_irrefl _ hlt
    · rw [hevs] at hm
      simpa [(lookup_mem c _ old hl).2] using (List.mem_filter.1 hm).2

def ev (id pk : String) (t k : Int) (tags : List (List String)) : Event :=
  { id := id, pubkey := pk, createdAt := t, kind := k, tags := tags, content := "", sig := "" }

-- one history with a replacement (`2` by `3`), an ephemeral event (`4`) and the eviction of the oldest (`1`)
example : (run { cap := 2 } [ev "1" "a" 5 1 [], ev "2" "a" 6 0 [], ev "3" "a" 7 0 [], ev "4" "b" 1 20001 [], ev "5" "b" 9 30000 [["d", "x"]]]).evs.map (·.id)
    = ["5", "3"] := by decide

/-- `Event.EventType` (regenerated from message.go) classifies the kinds as the statements of C04–C06 do. -/
theorem eventType_spec (k : Int) :
    eventType k =
      if k = 0 ∨ k = 3 ∨ (10000 ≤ k ∧ k < 20000) then .replaceable
      else if 20000 ≤ k ∧ k < 30000 then .ephemeral
      else if 30000 ≤ k ∧ k < 40000 then .addressable
      else .regular := by
  simp only [eventType, Gen.isReplaceableKind, Gen.isEphemeralKind, Gen.isAddressableKind, Bool.or_eq_true, Bool.and_eq_true,
    beq_iff_eq, decide_eq_true_eq, or_assoc]

def toClass : EventType → CacheSpec.Class
  | .regular => .regular
  | .replaceable => .replaceable
  | .ephemeral => .ephemeral
  | .addressable => .addressable

/-- the same, against the class function the runtime monitors of C03–C05 use -/
theorem eventType_eq_classOf (k : Int) : toClass (eventType k) = CacheSpec.classOf k := by
  unfold eventType
  rw [apply_ite toClass, apply_ite toClass, apply_ite toClass]
  rfl

example : eventType 39999 = .addressable ∧ eventType 40000 = .regular ∧ eventType 9999 = .regular ∧ eventType 10000 = .replaceable ∧
    eventType 19999 = .replaceable ∧ eventType 20000 = .ephemeral ∧ eventType 29999 = .ephemeral ∧ eventType 30000 = .addressable ∧
    eventType 0 = .replaceable ∧ eventType 3 = .replaceable ∧ eventType 1 = .regular ∧ eventType 2 = .regular ∧ eventType 4 = .regular := by decide

end Moc.C04
