/-
  C13 — Sessions always terminate and release everything when the peer goes away.

  Partial, and the weakest of the set: that a goroutine parked at a guarded site really wakes up, and that nothing
  else parks, is a property of the Go runtime which the cut-point sweeps validate.  What Lean contributes:
    * over the list of EVERY channel operation of the session code, regenerated from the source, each one has a
      `<-ctx.Done()` alternative, or is non-blocking, or is one of the enumerated operations that cannot park
      (`sites_guarded_or_justified`, occurrence by occurrence) — a new unguarded send or receive breaks this theorem;
    * the write deadline applies whenever a send timeout is configured, whatever the ping interval is, ping
      disabled included (`write_deadline_applies`, from the regenerated guard of `sendMsgWithTimeout`);
    * nothing of the session remains in the router's registry after `UnsubscribeAll` (`registry_released`, C07's
      model); that a session's End takes its subscriptions off the gauges is `C19.end_subtracts_exactly_open`.
-/
import MocModel.Sites
import MocProps.C07

namespace Moc.C13

theorem sites_guarded_or_justified :
    unguardedSites.map (fun s => (s.1, s.2.2.2)) = justified.map (fun j => (j.1, j.2.1)) := by
  -- both sides evaluate to the same list of literals; `decide` would run `String.decEq` on each pair instead
  rfl

theorem justifications_known :
    ∀ j ∈ justified, j.2.2 = "buffered" ∨ j.2.2 = "token" ∨ j.2.2 = "join" ∨ j.2.2 = "closed" := by decide

set_option linter.unusedVariables false in
/-- `Site.guarded` unfolded: the guard of a guarded site is `ctxDone` or `default`.  The hypothesis `s ∈ allSites` is
    not used, so this says nothing of the regenerated table. -/
theorem guarded_sites_leave_on_cancel (s : Site) (h : s ∈ allSites) (hg : s.guarded = true) :
    s.2.2.1 = "ctxDone" ∨ s.2.2.1 = "default" := by
  simpa [Site.guarded] using hg

/-- about every `select` of the session code; the session loops (receive loops and forwarders of SimpleHandler,
    RouterHandler, the merge session and the middleware plumbing, the relay's write loop) are among them -/
theorem session_loops_guarded :
    (allSites.filter (fun s => s.2.1 == "select")).all Site.guarded = true := by decide

theorem write_deadline_applies (pingDuration sendTimeout : Int) (h : 0 < sendTimeout) :
    writeBounded pingDuration sendTimeout = true := by
  simp [writeBounded, Gen.relaySendMsgGuard, h]

theorem registry_released (st : RSt) (c : Conn) : nGet (st.step (.unsubAll c)).1.reg c = none :=
  (C07.unsubAll_removes_everything st c).1

/-- the prediction the cut-point sweeps are compared with, spelled out; nothing about sessions is proved by it -/
theorem session_end_clean : sessionEnd = { returned := true, leftover := 0, registry := 0, conn := 0, req := 0 } := rfl

end Moc.C13
