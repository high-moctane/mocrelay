/-
  C19 — Metrics middleware: gauges and counters equal what happened.

  Model: MocModel/Prom.lean (`Prom.step`), Spec: MocModel/Spec/Prom.lean (`liveSessions`, `openSubsOf`,
  `countRecv` …).  The bookkeeping is proved for every history: the counters directly, the gauges by the invariant
  `PInv`.  Transparency (messages pass unaltered) is not a statement about the bookkeeping state; it is checked by
  the monitor on every message of the correspondence run.  Sessions are interleaved at whole steps: the mutex of
  `reqCounter` is exercised at run time, not modelled.
-/
import MocModel.Spec.Prom
import MocProps.ListMap

namespace Moc.C19

/-- the statements of prometheus.go that `Prom.step` translates by hand, against the regenerated source text -/
theorem prom_source_pinned : promActualSource = promExpectedSource := rfl

/-! The two label tables are evaluated through `lookup_cons_if` and `String.reduceEq` (see `lookup_cons_if` for why
    not `==`). -/

open Gen in
theorem recv_label_correct (m : ClientMsg) : recvLabel m = nip01Label m := by
  simp only [recvLabel, recvTable, lookup_cons_if, recvCase0, recvCase1, recvCase2, recvCase3, recvCase4, recvLabel0,
    recvLabel1, recvLabel2, recvLabel3, recvLabel4]
  cases m <;> simp only [ClientMsg.goType, nip01Label, String.reduceEq, if_true, if_false, Option.getD_some]

open Gen in
theorem send_label_correct (m : ServerMsg) : sendLabel m = nip01SLabel m := by
  simp only [sendLabel, sendTable, lookup_cons_if, sendCase0, sendCase1, sendCase2, sendCase3, sendCase4, sendCase5,
    sendCase6, sendLabel0, sendLabel1, sendLabel2, sendLabel3, sendLabel4, sendLabel5, sendLabel6]
  cases m <;> simp only [ServerMsg.goType, nip01SLabel, String.reduceEq, if_true, if_false, Option.getD_some]

theorem getCnt_bump {α} [BEq α] [LawfulBEq α] (k k' : α) (l : List (α × Nat)) :
    getCnt k' (bump k l) = getCnt k' l + (if k == k' then 1 else 0) := by
  induction l with
  | nil =>
    rw [bump, getCnt, List.lookup_cons, BEq.comm]
    cases k == k' <;> rfl
  | cons q rest ih =>
    obtain ⟨a, n⟩ := q
    rw [bump]
    simp only [getCnt, List.lookup_cons] at ih ⊢
    by_cases hak : a = k
    · subst hak
      rw [if_pos (beq_self_eq_true a), List.lookup_cons, BEq.comm]
      cases a == k' <;> rfl
    · rw [if_neg (mt beq_iff_eq.1 hak), List.lookup_cons]
      by_cases hk' : k' = a
      · subst hk'
        rw [beq_self_eq_true, beq_false_of_ne (Ne.symm hak)]; rfl
      · rw [beq_false_of_ne hk']; exact ih

theorem run_count (g : Prom → Nat) (f : PStep → Bool)
    (h : ∀ p st, g (p.step st) = g p + if f st then 1 else 0) (steps : List PStep) :
    ∀ p, g (p.run steps) = g p + steps.countP f := by
  induction steps with
  | nil => intro p; rfl
  | cons st rest ih =>
    intro p
    rw [show p.run (st :: rest) = (p.step st).run rest from rfl, ih, h, List.countP_cons, Nat.add_assoc,
      Nat.add_comm (List.countP f rest)]

/-- the guarded gauge operation of REQ, CLOSE and CLOSED does not touch the counters -/
theorem counters_guarded (c : Prop) [Decidable c] (q : Prom) (r : Int) (s : List (Nat × List String)) :
    (if c then { q with req := r, subs := s } else q).recv = q.recv ∧
    (if c then { q with req := r, subs := s } else q).sent = q.sent ∧
    (if c then { q with req := r, subs := s } else q).kinds = q.kinds := by
  split <;> exact ⟨rfl, rfl, rfl⟩

theorem step_counters (p : Prom) (st : PStep) :
    (p.step st).recv = (match st with | .client _ m => bump (recvLabel m) p.recv | _ => p.recv) ∧
    (p.step st).sent = (match st with | .server _ m => bump (sendLabel m) p.sent | _ => p.sent) ∧
    (p.step st).kinds = (match st with | .client _ (.event e) => bump e.kind p.kinds | _ => p.kinds) := by
  cases st with
  | client _ m =>
    cases m with
    | req _ _ => exact counters_guarded ..
    | close _ => exact counters_guarded ..
    | _ => exact ⟨rfl, rfl, rfl⟩
  | server _ m =>
    cases m with
    | closed _ _ _ => exact counters_guarded ..
    | _ => exact ⟨rfl, rfl, rfl⟩
  | _ => exact ⟨rfl, rfl, rfl⟩

theorem recv_counters (steps : List PStep) (label : String) :
    ∀ p : Prom, getCnt label (p.run steps).recv = getCnt label p.recv + countRecv label steps :=
  run_count (fun p => getCnt label p.recv) _ (fun p st => by
    obtain ⟨hrecv, _, _⟩ := step_counters p st
    rw [hrecv]
    cases st with
    | client _ m => rw [getCnt_bump, recv_label_correct]
    | _ => rfl) steps

theorem sent_counters (steps : List PStep) (label : String) :
    ∀ p : Prom, getCnt label (p.run steps).sent = getCnt label p.sent + countSent label steps :=
  run_count (fun p => getCnt label p.sent) _ (fun p st => by
    obtain ⟨_, hsent, _⟩ := step_counters p st
    rw [hsent]
    cases st with
    | server _ m => rw [getCnt_bump, send_label_correct]
    | _ => rfl) steps

theorem kind_counters (steps : List PStep) (k : Int) :
    ∀ p : Prom, getCnt k (p.run steps).kinds = getCnt k p.kinds + countKind k steps :=
  run_count (fun p => getCnt k p.kinds) _ (fun p st => by
    obtain ⟨_, _, hkinds⟩ := step_counters p st
    rw [hkinds]
    cases st with
    | client _ m =>
      cases m with
      | event e => rw [getCnt_bump]
      | _ => rfl
    | _ => rfl) steps

theorem getSubs_set (p : Prom) (sid s : Nat) (l : List String) :
    getSubs { p with subs := setSubs p.subs sid l } s = if s = sid then l else getSubs p s :=
  getD_lookup_set p.subs sid s l []

theorem getSubs_drop (p : Prom) (sid s : Nat) :
    getSubs { p with subs := dropSubs p.subs sid } s = if s = sid then [] else getSubs p s :=
  getD_lookup_erase p.subs sid s []

theorem openStep_req (sid : Nat) (acc : List String) (sub : String) (fs : List Filter) :
    openStep sid acc (.client sid (.req sub fs)) = if acc.contains sub then acc else sub :: acc :=
  if_pos (beq_self_eq_true sid)

theorem openStep_close (sid : Nat) (acc : List String) (sub : String) :
    openStep sid acc (.client sid (.close sub)) = acc.erase sub :=
  if_pos (beq_self_eq_true sid)

theorem openStep_closed (sid : Nat) (acc : List String) (sub pfx msg : String) :
    openStep sid acc (.server sid (.closed sub pfx msg)) = acc.erase sub :=
  if_pos (beq_self_eq_true sid)

theorem openStep_ne (s : Nat) (acc : List String) (st : PStep) (h : st.sid ≠ s) : openStep s acc st = acc := by
  cases st with
  | client sid m =>
    cases m with
    | req _ _ => exact if_neg (mt beq_iff_eq.1 h)
    | close _ => exact if_neg (mt beq_iff_eq.1 h)
    | _ => rfl
  | server sid m =>
    cases m with
    | closed _ _ _ => exact if_neg (mt beq_iff_eq.1 h)
    | _ => rfl
  | _ => rfl

/-- what a message step does to the gauges (`step_client`, `step_server`): the set of session `sid` becomes `X` and
    `req` moves by the change of its size -/
def Writes (q q' : Prom) (sid : Nat) (X : List String) : Prop :=
  (∀ s, getSubs q' s = if s = sid then X else getSubs q s) ∧
  q'.req = q.req - (getSubs q sid).length + X.length ∧ q'.conn = q.conn

/-- a step that at most bumps counters -/
theorem writes_same {q q' : Prom} (sid : Nat) (hs : q'.subs = q.subs) (hr : q'.req = q.req) (hc : q'.conn = q.conn) :
    Writes q q' sid (getSubs q sid) :=
  ⟨fun s => (congrArg (fun l => (l.lookup s).getD []) hs).trans (ite_eq_right_iff.2 fun h => h ▸ rfl).symm,
    hr.trans (Int.sub_add_cancel _ _).symm, hc⟩

/-- `reqCounter.ServeNostrClientMsg` on a REQ: a subscription id not yet in `c.m[reqID]` is entered and the gauge
    incremented (`Gen.reqOpenIf`) -/
theorem writes_open (q : Prom) (sid : Nat) (sub : String) :
    Writes q (if !(getSubs q sid).contains sub then
      { q with req := q.req + 1, subs := setSubs q.subs sid (sub :: getSubs q sid) } else q) sid
      (if (getSubs q sid).contains sub then getSubs q sid else sub :: getSubs q sid) := by
  cases hc : (getSubs q sid).contains sub with
  | true => exact writes_same sid rfl rfl rfl
  | false =>
    refine ⟨fun s => getSubs_set q sid s _, ?_, rfl⟩
    show q.req + 1 = q.req - _ + ((sub :: getSubs q sid).length : Int)
    rw [List.length_cons, Int.natCast_succ, ← Int.add_assoc, Int.sub_add_cancel]

/-- `reqCounter` on a CLOSE and, in `ServeNostrServerMsg`, on a CLOSED (`Gen.reqCloseIf`, `Gen.reqClosedIf`: the same
    text): an id found in `c.m[reqID]` is deleted and the gauge decremented -/
theorem writes_end (q : Prom) (sid : Nat) (sub : String) :
    Writes q (if (getSubs q sid).contains sub then
      { q with req := q.req - 1, subs := setSubs q.subs sid ((getSubs q sid).erase sub) } else q) sid
      ((getSubs q sid).erase sub) := by
  cases hc : (getSubs q sid).contains sub with
  | false => rw [List.erase_of_not_mem (by simpa using hc)]; exact writes_same sid rfl rfl rfl
  | true =>
    have hm : sub ∈ getSubs q sid := List.contains_iff_mem.1 hc
    refine ⟨fun s => getSubs_set q sid s _, ?_, rfl⟩
    show q.req - 1 = _
    rw [List.length_erase_of_mem hm, Int.natCast_sub (List.length_pos_of_mem hm), ← Int.add_sub_assoc,
      Int.sub_add_cancel]
    rfl

/-- The guarded operation acts on `p` with its counters already bumped; `Writes` does not look at counters, so
    `writes_*` about that record are `Writes p …` up to unfolding. -/
theorem step_client (p : Prom) (sid : Nat) (m : ClientMsg) :
    Writes p (p.step (.client sid m)) sid (openStep sid (getSubs p sid) (.client sid m)) := by
  cases m with
  | req sub fs => rw [openStep_req]; exact writes_open _ sid sub
  | close sub => rw [openStep_close]; exact writes_end _ sid sub
  | _ => exact writes_same sid rfl rfl rfl

theorem step_server (p : Prom) (sid : Nat) (m : ServerMsg) :
    Writes p (p.step (.server sid m)) sid (openStep sid (getSubs p sid) (.server sid m)) := by
  cases m with
  | closed sub _ _ => rw [openStep_closed]; exact writes_end _ sid sub
  | _ => exact writes_same sid rfl rfl rfl

theorem sum_erase (live : List Nat) (sid : Nat) (hs : sid ∈ live) (f : Nat → Int) :
    ((live.erase sid).map f).sum = (live.map f).sum - f sid := by
  induction live with
  | nil => cases hs
  | cons a rest ih =>
    by_cases ha : a = sid
    · rw [ha, List.erase_cons_head, List.map_cons, List.sum_cons, Int.add_comm, Int.add_sub_cancel]
    · rw [List.erase_cons_tail (mt beq_iff_eq.1 ha), List.map_cons, List.map_cons, List.sum_cons, List.sum_cons,
        ih ((List.mem_cons.1 hs).resolve_left (Ne.symm ha)), Int.add_sub_assoc]

/-- `live`: the sessions started and not ended, `dead`: those ended, `acc s`: what `openStep s` has accumulated over
    the history so far.  `fresh`: a session never started has accumulated nothing, since no message of it can have
    occurred. -/
structure PInv (p : Prom) (live dead : List Nat) (acc : Nat → List String) : Prop where
  nodup : live.Nodup
  conn : p.conn = live.length
  req : p.req = (live.map fun s => ((acc s).length : Int)).sum
  subs : ∀ s ∈ live, getSubs p s = acc s
  fresh : ∀ s, s ∉ live → s ∉ dead → acc s = []

section
variable {p : Prom} {live dead : List Nat} {acc : Nat → List String}

theorem PInv.start (hinv : PInv p live dead acc) {sid : Nat} (hl : sid ∉ live) (hd : sid ∉ dead) :
    PInv (p.step (.start sid)) (sid :: live) dead acc := by
  obtain ⟨hnd, hconn, hreq, hsubs, hfresh⟩ := hinv
  refine ⟨List.nodup_cons.2 ⟨hl, hnd⟩, congrArg (· + 1) hconn, ?_, fun s hs => ?_, ?_⟩
  · rw [List.map_cons, List.sum_cons, hfresh sid hl hd, ← hreq]; exact (Int.zero_add _).symm
  · refine (getSubs_set p sid s []).trans ?_
    by_cases h : s = sid
    · rw [if_pos h, h, hfresh sid hl hd]
    · rw [if_neg h]; exact hsubs s ((List.mem_cons.1 hs).resolve_left h)
  · exact fun s hs => hfresh s fun h => hs (List.mem_cons_of_mem _ h)

theorem PInv.stop (hinv : PInv p live dead acc) {sid : Nat} (hl : sid ∈ live) :
    PInv (p.step (.stop sid)) (live.erase sid) (sid :: dead) acc := by
  obtain ⟨hnd, hconn, hreq, hsubs, hfresh⟩ := hinv
  have hmem : ∀ s, s ∈ live.erase sid ↔ s ≠ sid ∧ s ∈ live := fun s => hnd.mem_erase_iff
  refine ⟨hnd.erase _, ?_, ?_, fun s hs => ?_, fun s hs hd => ?_⟩
  · show p.conn - 1 = _
    rw [hconn, List.length_erase_of_mem hl, Int.natCast_sub (List.length_pos_of_mem hl)]; rfl
  · show p.req - (getSubs p sid).length = _
    rw [sum_erase live sid hl, hreq, hsubs sid hl]
  · refine (getSubs_drop p sid s).trans ?_
    rw [if_neg ((hmem s).1 hs).1]
    exact hsubs s ((hmem s).1 hs).2
  · have hne : s ≠ sid := fun e => hd (e ▸ List.mem_cons_self)
    exact hfresh s (fun h => hs ((hmem s).2 ⟨hne, h⟩)) (fun h => hd (List.mem_cons_of_mem _ h))

theorem PInv.msg (hinv : PInv p live dead acc) (st : PStep)
    (hw : Writes p (p.step st) st.sid (openStep st.sid (getSubs p st.sid) st)) (hl : st.sid ∈ live) :
    PInv (p.step st) live dead (fun s => openStep s (acc s) st) := by
  obtain ⟨hnd, hconn, hreq, hsubs, hfresh⟩ := hinv
  obtain ⟨hg, hr, hc⟩ := hw
  refine ⟨hnd, hc ▸ hconn, ?_, fun s hs => ?_, fun s hs hd => ?_⟩
  · -- only the summand of `st.sid` changes
    have hoff : ∀ s ∈ live.erase st.sid, ((acc s).length : Int) = (openStep s (acc s) st).length :=
      fun s hs => by rw [openStep_ne s _ st fun e => (hnd.mem_erase_iff.1 hs).1 e.symm]
    rw [hr, hreq, hsubs _ hl, ← sum_erase live _ hl, List.map_congr_left hoff, sum_erase live _ hl,
      Int.sub_add_cancel]
  · rw [hg, ← hsubs s hs]
    by_cases h : s = st.sid
    · rw [if_pos h, h]
    · rw [if_neg h, openStep_ne s _ st (Ne.symm h)]
  · rw [openStep_ne s _ st (fun e => hs (e ▸ hl)), hfresh s hs hd]

end

theorem run_inv (steps : List PStep) : ∀ (p : Prom) (live dead : List Nat) (acc : Nat → List String),
    PInv p live dead acc → WellFormedHist steps live dead →
    ∃ dead', PInv (p.run steps) (steps.foldl liveStep live) dead' (fun s => steps.foldl (openStep s) (acc s)) := by
  induction steps with
  | nil => exact fun _ _ dead _ hinv _ => ⟨dead, hinv⟩
  | cons st rest ih =>
    intro p live dead acc hinv hwf
    cases st with
    -- `openStep` ignores Start and End: what is accumulated stays `acc`
    | start sid => exact ih _ _ _ _ (hinv.start hwf.1 hwf.2.1) hwf.2.2
    | stop sid => exact ih _ _ _ _ (hinv.stop hwf.1) hwf.2
    | client sid m => exact ih _ _ _ _ (hinv.msg _ (step_client p sid m) hwf.1) hwf.2
    | server sid m => exact ih _ _ _ _ (hinv.msg _ (step_server p sid m) hwf.1) hwf.2

/-- The gauge clause, for any number of sessions.  `hwf`: each session's messages lie between its Start and its End,
    and session ids (fresh UUIDs) are not reused.  The third conjunct is about `reqCounter.m` itself. -/
theorem gauges_equal_reality (steps : List PStep) (hwf : WellFormedHist steps [] []) :
    let p := (Prom.run {} steps)
    p.conn = (liveSessions steps).length ∧
    p.req = ((liveSessions steps).map fun s => ((openSubsOf s steps).length : Int)).sum ∧
    ∀ s ∈ liveSessions steps, getSubs p s = openSubsOf s steps := by
  obtain ⟨_, _, hc, hr, ho, _⟩ := run_inv steps {} [] [] (fun _ => [])
    ⟨List.nodup_nil, rfl, rfl, nofun, fun _ _ _ => rfl⟩ hwf
  exact ⟨hc, hr, ho⟩

/-- `Prom.step` unfolded; that `getSubs p sid` is the set of a live session's still-open subscriptions is
    `gauges_equal_reality`. -/
theorem end_subtracts_exactly_open (p : Prom) (sid : Nat) :
    (p.step (.stop sid)).req = p.req - (getSubs p sid).length ∧ (p.step (.stop sid)).conn = p.conn - 1 :=
  ⟨rfl, rfl⟩

/-! non-vacuity of `WellFormedHist`: two sessions, a repeated REQ, a CLOSED, a CLOSE, an End with a subscription open -/
def exHist : List PStep :=
  [.start 1, .client 1 (.req "a" []), .start 2, .client 2 (.req "a" []), .client 1 (.req "b" []),
   .client 1 (.req "a" []), .server 2 (.closed "a" "" ""), .client 1 (.close "b"), .client 2 (.req "c" []), .stop 2]

example : WellFormedHist exHist [] [] := by
  simp only [exHist, WellFormedHist]
  decide

example : (Prom.run {} exHist).req = 1 ∧ (Prom.run {} exHist).conn = 1 := by decide

end Moc.C19
