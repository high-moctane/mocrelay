/-
  C12, last clause: "every message the handler emits reaches the client as one JSON text frame decoding to the same
  message".  On JSON trees (the byte level is encoding/json's, trusted and runtime-validated): for EVERY server
  message whose integers fit the wire types, the decoder of its type applied to its encoding yields a message
  with the same wire content — identical, except that OK / CLOSED carry their text as `prefix ++ message`, which
  is all the wire carries.
-/
import MocProps.C10

namespace Moc.C12
open Moc.C10

/-- the type a client unmarshals the message into -/
def srvTag : ServerMsg → String
  | .eose _ => "EOSE"
  | .event _ _ => "EVENT"
  | .notice _ => "NOTICE"
  | .ok _ _ _ _ => "OK"
  | .auth _ => "AUTH"
  | .count _ _ _ => "COUNT"
  | .closed _ _ _ => "CLOSED"

def wire : ServerMsg → ServerMsg
  | .ok id acc p m => .ok id acc "" (p ++ m)
  | .closed sub p m => .closed sub "" (p ++ m)
  | m => m

/-- the integers of the message fit the Go types they are written from -/
def WireOK : ServerMsg → Prop
  | .event _ e => inInt64 e.createdAt = true ∧ inInt64 e.kind = true
  | .count _ n _ => (n : Int) ≤ uint64Max
  | _ => True

theorem outbound_decodes_same (m : ServerMsg) (h : WireOK m) :
    ∃ m', decodeServerAs (srvTag m) (encodeServerMsg m) = .ok m' ∧ wire m' = wire m := by
  cases m with
  | eose s => exact ⟨_, eose_roundtrip s, rfl⟩
  | notice s => exact ⟨_, notice_roundtrip s, rfl⟩
  | auth s => exact ⟨_, auth_roundtrip s, rfl⟩
  | event sub e => exact ⟨_, serverEvent_roundtrip sub e h.1 h.2, rfl⟩
  | count sub n a => exact ⟨_, count_roundtrip sub n a h, rfl⟩
  | ok id acc p t => exact ⟨_, decodeServerOK_arr id acc (p ++ t), by simp [wire, parsePrefix_join]⟩
  | closed sub p t => exact ⟨_, decodeServerClosed_arr sub (p ++ t), by simp [wire, parsePrefix_join]⟩

/-- the label a `[]string` decoder tests is the head of the array -/
theorem decStrArray_head {l : String} {rest : List JT} {a : List String}
    (h : decStrArray (.arr (.str l :: rest)) = .ok a) : a.getD 0 "" = l := by
  simp only [decStrArray, decStrsLoose, map_ok] at h
  obtain ⟨_, _, rfl⟩ := h
  rfl

/-- likewise for the decoders that take the array apart as raw elements -/
theorem decRawArray_head {l t : String} {rest a : List JT} (ha : decRawArray (.arr (.str l :: rest)) = .ok a)
    (hl : decStr (a.getD 0 .null) = .ok t) : l = t := by
  cases ha; cases hl; rfl

/-- a server decoder accepts an array headed by a string only if that string is its own label -/
theorem decodeServerAs_label (t l : String) (rest : List JT) (m : ServerMsg)
    (h : decodeServerAs t (.arr (.str l :: rest)) = .ok m) : l = t := by
  unfold decodeServerAs at h
  split at h
  · obtain ⟨a, ⟨ha, -, hb⟩, -⟩ := strHead_ok h
    exact (decStrArray_head ha).symm.trans (bne_eq_false_iff_eq.1 hb)
  · obtain ⟨a, ⟨ha, -, l', hl, hb⟩, -⟩ := rawHead_ok h
    exact (decRawArray_head ha hl).trans (bne_eq_false_iff_eq.1 hb)
  · obtain ⟨a, ⟨ha, -, hb⟩, -⟩ := strHead_ok h
    exact (decStrArray_head ha).symm.trans (bne_eq_false_iff_eq.1 hb)
  · obtain ⟨a, ⟨ha, -, l', hl, hb⟩, -⟩ := rawHead_ok h
    exact (decRawArray_head ha hl).trans (bne_eq_false_iff_eq.1 hb)
  · obtain ⟨a, ⟨ha, -, hb⟩, -⟩ := strHead_ok h
    exact (decStrArray_head ha).symm.trans (bne_eq_false_iff_eq.1 hb)
  · obtain ⟨a, ⟨ha, -, l', hl, hb⟩, -⟩ := rawHead_ok h
    exact (decRawArray_head ha hl).trans (bne_eq_false_iff_eq.1 hb)
  · obtain ⟨a, ⟨ha, -, hb⟩, -⟩ := strHead_ok h
    exact (decStrArray_head ha).symm.trans (bne_eq_false_iff_eq.1 hb)
  · cases h

set_option linter.unusedVariables false in -- `ht` is not used: `decodeServerAs` itself rejects an unknown `t`
/-- a client cannot mistake one reply for another -/
theorem outbound_not_confused (m : ServerMsg) (t : String) (ht : t ∈ ["EOSE", "EVENT", "NOTICE", "OK", "AUTH", "COUNT", "CLOSED"])
    (hne : t ≠ srvTag m) : ∃ err, decodeServerAs t (encodeServerMsg m) = .error err := by
  obtain ⟨rest, hm⟩ : ∃ rest, encodeServerMsg m = .arr (.str (srvTag m) :: rest) := by cases m <;> exact ⟨_, rfl⟩
  cases h : decodeServerAs t (encodeServerMsg m) with
  | error e => exact ⟨e, rfl⟩
  | ok m' => exact absurd (decodeServerAs_label t _ rest m' (hm ▸ h)).symm hne

end Moc.C12
