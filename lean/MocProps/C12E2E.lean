import MocProps.C12
import MocProps.C11
import MocProps.C01Sig

/-!
  C12 end to end: the gate with the model's own parser, validator and verifier plugged in (`gateTree`), i.e. with
  nothing handed in but the frame's text and its JSON tree.  The handler receives a message exactly when the frame
  parses to it (C10's decoder), it meets the NIP-01 constraints (C11's `validClientMsg_iff`) and — for an EVENT — its
  id is the SHA-256 of its serialization and its signature passes the library's check (C01's `verifyFull_true_iff`).
  The driver of the correspondence stream `ws` (MocModel/Drv/Gate.lean) composes the same three functions by hand and
  runs them against the relay over a real WebSocket; that its composition is `gateTree` is read off, not proved.
-/

namespace Moc.C12

/-- the verdict `serveRead` obtains from `Event.Verify` for a parsed message (only EVENTs are verified) -/
def verOf : DecE ClientMsg → VerifyRes
  | .ok (.event e) => verifyFull e
  | _ => .error

/-- `serveRead` on a text frame holding valid UTF-8 JSON with tree `t` -/
def gateTree (payload : String) (t : JT) : GateOut :=
  gate true true true payload (parseClientMsg payload t) (verOf (parseClientMsg payload t))

theorem gate_end_to_end (payload : String) (t : JT) (m : ClientMsg) :
    gateTree payload t = .forward m ↔
      parseClientMsg payload t = .ok m ∧ ValidSpec.MsgOk m ∧ (∀ e, m = .event e → verifyFull e = .ok true) := by
  unfold gateTree
  rw [gate_forwards_iff, Acceptable, C11.validClientMsg_iff]
  constructor
  · rintro ⟨_, _, _, hp, hv, he⟩
    exact ⟨hp, hv, fun e hm => by have := he e hm; rwa [hp, hm] at this⟩
  · rintro ⟨hp, hv, he⟩
    exact ⟨rfl, rfl, rfl, hp, hv, fun e hm => by rw [hp, hm]; exact he e hm⟩

/-- the last clause of `gate_end_to_end` for an EVENT, spelled out with C01's `verifyFull_true_iff` -/
theorem forwarded_event_authentic (payload : String) (t : JT) (e : Event)
    (h : gateTree payload t = .forward (.event e)) :
    ∃ idBin pk sg, hexDecode e.id.toList = some idBin ∧
      hexDecode (Sha256.hexHash (String.ofList (serializeChars e))).toList = some idBin ∧
      hexDecode e.pubkey.toList = some pk ∧ hexDecode e.sig.toList = some sg ∧
      Bip340.verifyLib pk idBin sg = ⟨true, true, true⟩ :=
  (C01.verifyFull_true_iff e).1 (((gate_end_to_end payload t (.event e)).1 h).2.2 e rfl)

theorem gate_otherwise_one_notice (payload : String) (t : JT)
    (h : ¬ ∃ m, parseClientMsg payload t = .ok m ∧ ValidSpec.MsgOk m ∧ (∀ e, m = .event e → verifyFull e = .ok true)) :
    ∃ n, gateTree payload t = .notice n :=
  notice_of_not_forward _ fun m hg => h ⟨m, (gate_end_to_end payload t m).1 hg⟩

end Moc.C12
