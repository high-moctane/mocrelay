/- Go maps are modelled as association lists in which a write or a delete first filters the key out
   (`alSet`/`alErase`, `nSet`/`nErase`, `rSet`/`rErase`, `ixSet`/`ixErase`, `setSubs`/`dropSubs`; the payload table of
   the SQLite model, which puts the new entry at the end): what `List.lookup` finds in such a filtered list, once for
   all of them.  Besides: with distinct keys an entry is what `lookup` finds (`mem_iff_lookup_eq_some`), the keys stay
   distinct (`keys_nodup_*`), and `lookup` in a table of literals (`lookup_cons_if`). -/

namespace Moc

/-- `List.lookup` with the key test as a proposition (tables keyed by string literals are evaluated through it:
    `String.reduceEq` decides `=` between literals with a certificate the kernel checks at once, whereas `==` is run
    through `String.decEq` character by character, in the elaborator and again in the kernel) -/
theorem lookup_cons_if {α β} [DecidableEq α] (k a : α) (b : β) (es : List (α × β)) :
    ((a, b) :: es).lookup k = if k = a then some b else es.lookup k := by
  rw [List.lookup_cons]
  by_cases h : k = a
  · rw [if_pos h, h, beq_self_eq_true]
  · rw [if_neg h, beq_false_of_ne h]

theorem lookup_filter_self {α β} [BEq α] [LawfulBEq α] (l : List (α × β)) (k : α) :
    (l.filter (fun p => p.1 != k)).lookup k = none :=
  List.lookup_eq_none_iff.2 fun p hp => bne_comm (a := p.1) ▸ (List.mem_filter.1 hp).2

theorem lookup_filter_ne {α β} [BEq α] [LawfulBEq α] (l : List (α × β)) {k k' : α} (h : k' ≠ k) :
    (l.filter (fun p => p.1 != k)).lookup k' = l.lookup k' := by
  induction l with
  | nil => rfl
  | cons p ps ih =>
    rw [List.filter_cons]
    split
    · rw [List.lookup_cons, List.lookup_cons, ih]
    · rename_i hp
      have : p.1 = k := by simpa using hp
      rw [List.lookup_cons, ih, beq_false_of_ne (this ▸ h)]

theorem lookup_set_ne {α β} [BEq α] [LawfulBEq α] (l : List (α × β)) {k k' : α} (v : β) (h : k' ≠ k) :
    ((k, v) :: l.filter (fun p => p.1 != k)).lookup k' = l.lookup k' := by
  rw [List.lookup_cons, beq_false_of_ne h]; exact lookup_filter_ne l h

/-- a map read with a default (`m[k]` of a Go map) after a write; `getD_lookup_erase`: after a delete -/
theorem getD_lookup_set {α β} [BEq α] [LawfulBEq α] [DecidableEq α] (l : List (α × β)) (k k' : α) (v d : β) :
    (((k, v) :: l.filter (fun p => p.1 != k)).lookup k').getD d = if k' = k then v else (l.lookup k').getD d := by
  by_cases h : k' = k
  · rw [if_pos h, h, List.lookup_cons_self]; rfl
  · rw [if_neg h, lookup_set_ne l v h]

theorem getD_lookup_erase {α β} [BEq α] [LawfulBEq α] [DecidableEq α] (l : List (α × β)) (k k' : α) (d : β) :
    ((l.filter (fun p => p.1 != k)).lookup k').getD d = if k' = k then d else (l.lookup k').getD d := by
  by_cases h : k' = k
  · rw [if_pos h, h, lookup_filter_self]; rfl
  · rw [if_neg h, lookup_filter_ne l h]

theorem lookup_write {α β} [BEq α] [LawfulBEq α] [DecidableEq α] (l : List (α × β)) (k k' : α) (v : β) :
    (l.filter (fun q => q.1 != k) ++ [(k, v)]).lookup k' = if k' = k then some v else l.lookup k' := by
  rw [List.lookup_append]
  by_cases h : k' = k
  · rw [if_pos h, h, lookup_filter_self]; simp
  · rw [if_neg h, lookup_filter_ne l h, List.lookup_cons, beq_false_of_ne h]; simp

/-- A Go map of sets (`map[K]map[V]…`, the sets kept as lists): `r` is `l` after the set under `k` was changed by `g`,
    where a missing key is skipped and an emptied set is removed (`ixDel1`, `regDel`; `hnone`, `hsome` are the two
    arms of their `match`: stated as hypotheses because every definition has its own matcher, which a quoted `match`
    would not unify with).  One of three things happened. -/
theorem updateSet_cases {α β} [BEq α] {l r : List (α × List β)} {k : α} {g : List β → List β}
    (hnone : l.lookup k = none → r = l)
    (hsome : ∀ s, l.lookup k = some s →
      r = if (g s).isEmpty then l.filter (fun p => p.1 != k) else (k, g s) :: l.filter (fun p => p.1 != k)) :
    r = l ∧ (l.lookup k).getD [] = [] ∨
    r = l.filter (fun p => p.1 != k) ∧ g ((l.lookup k).getD []) = [] ∨
    r = (k, g ((l.lookup k).getD [])) :: l.filter (fun p => p.1 != k) ∧ g ((l.lookup k).getD []) ≠ [] := by
  cases hl : l.lookup k with
  | none => exact Or.inl ⟨hnone hl, rfl⟩
  | some s =>
    rw [hsome s hl]
    by_cases h : (g s).isEmpty = true
    · exact Or.inr (Or.inl ⟨if_pos h, List.isEmpty_iff.1 h⟩)
    · exact Or.inr (Or.inr ⟨if_neg h, fun he => h (List.isEmpty_iff.2 he)⟩)

/-- which of the three does not show in what is read under any key -/
theorem getD_lookup_updateSet {α β} [BEq α] [LawfulBEq α] [DecidableEq α] {l r : List (α × List β)} {k : α}
    {g : List β → List β} (hg : g [] = [])
    (hr : r = l ∧ (l.lookup k).getD [] = [] ∨
      r = l.filter (fun p => p.1 != k) ∧ g ((l.lookup k).getD []) = [] ∨
      r = (k, g ((l.lookup k).getD [])) :: l.filter (fun p => p.1 != k) ∧ g ((l.lookup k).getD []) ≠ []) (k' : α) :
    (r.lookup k').getD [] = if k' = k then g ((l.lookup k).getD []) else (l.lookup k').getD [] := by
  rcases hr with ⟨h, h'⟩ | ⟨h, h'⟩ | ⟨h, _⟩ <;> rw [h]
  · by_cases hk : k' = k
    · rw [if_pos hk, h', hg, hk]; exact h'
    · rw [if_neg hk]
  · rw [getD_lookup_erase, h']
  · rw [getD_lookup_set]

theorem mem_of_lookup_eq_some {α β} [BEq α] [LawfulBEq α] {l : List (α × β)} {k : α} {v : β}
    (h : l.lookup k = some v) : (k, v) ∈ l := by
  obtain ⟨l₁, l₂, rfl, _⟩ := List.lookup_eq_some_iff.1 h
  exact List.mem_append_right _ List.mem_cons_self

theorem mem_iff_lookup_eq_some {α β} [BEq α] [LawfulBEq α] {l : List (α × β)} (h : (l.map (·.1)).Nodup) {k : α} {v : β} :
    (k, v) ∈ l ↔ l.lookup k = some v := by
  refine ⟨fun hm => ?_, mem_of_lookup_eq_some⟩
  induction l with
  | nil => cases hm
  | cons p ps ih =>
    obtain ⟨hp, hps⟩ := List.nodup_cons.1 h
    rcases List.mem_cons.1 hm with rfl | hm
    · exact List.lookup_cons_self
    · have : k ≠ p.1 := fun hk => hp (List.mem_map.2 ⟨(k, v), hm, hk⟩)
      rw [List.lookup_cons, beq_false_of_ne this]
      exact ih hps hm

theorem keys_nodup_filter {α β} (l : List (α × β)) (f : α × β → Bool) (h : (l.map Prod.fst).Nodup) :
    ((l.filter f).map Prod.fst).Nodup :=
  h.sublist (List.filter_sublist.map _)

theorem not_mem_keys_filter {α β} [BEq α] [LawfulBEq α] (l : List (α × β)) (k : α) :
    k ∉ (l.filter (fun p => p.1 != k)).map Prod.fst := fun h => by
  obtain ⟨p, hp, rfl⟩ := List.mem_map.1 h
  exact absurd rfl (bne_iff_ne.1 (List.mem_filter.1 hp).2)

theorem keys_nodup_set {α β} [BEq α] [LawfulBEq α] (l : List (α × β)) (k : α) (v : β)
    (h : (l.map Prod.fst).Nodup) : (((k, v) :: l.filter (fun p => p.1 != k)).map Prod.fst).Nodup :=
  List.nodup_cons.2 ⟨not_mem_keys_filter l k, keys_nodup_filter l _ h⟩

end Moc
