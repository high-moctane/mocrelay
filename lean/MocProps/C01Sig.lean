import MocModel.Serialize
import MocProps.C01
import MocProps.C01Curve

/-!
  C01, the signature half.  `Event.Verify` with nothing handed in (`verifyFull`: Lean SHA-256, Lean model of the
  signature library) reports authentic exactly when the id is the hash of the serialization and the library's
  check passes; the library's check is BIP-340 on every signature whose `s` is in range, and the out-of-range
  window (btcec v2.3.4 does not reject `s ≥ n`) is fewer than 2^129 of the 2^256 values.

  NOT proved (trusted base): `verifyFast = verifyRef` (Jacobian vs affine arithmetic over the 256-bit field) —
  executed against each other on the BIP's vectors and on one event in sixteen of every correspondence stream.
-/

namespace Moc.Bip340

/-! What can be proved without field algebra: the range checks, and that the two versions agree on them. -/

theorem verifyRef_sig_range (pk msg sig : List Nat)
    (h : (verifyRef pk msg sig).sigParses = true) :
    sig.length = 64 ∧ natOfBytes (sig.take 32) < p ∧ natOfBytes (sig.drop 32) < n := by
  rcases verifyRef_cases pk msg sig with ⟨e, _⟩ | ⟨_, _, _, _, ⟨e, _⟩ | ⟨h1, h2, h3, _⟩⟩
  · rw [e] at h; cases h
  · rw [e] at h; cases h
  · exact ⟨h1, h2, h3⟩

theorem verifyRef_pubkey_range (pk msg sig : List Nat)
    (h : (verifyRef pk msg sig).pubkeyParses = true) :
    pk.length = 32 ∧ natOfBytes pk < p ∧ (liftX (natOfBytes pk)).isSome = true := by
  rcases verifyRef_cases pk msg sig with ⟨e, _⟩ | ⟨_, _, h1, h2, _⟩
  · rw [e] at h; cases h
  · exact ⟨h1, (liftX_sound _ _ h2).2.1, by rw [h2]; rfl⟩

theorem verifyRef_verifies_parses (pk msg sig : List Nat)
    (h : (verifyRef pk msg sig).verifies = true) :
    (verifyRef pk msg sig).pubkeyParses = true ∧ (verifyRef pk msg sig).sigParses = true := by
  rcases verifyRef_cases pk msg sig with ⟨e, _⟩ | ⟨_, _, _, _, ⟨e, _⟩ | ⟨_, _, _, e⟩⟩ <;> rw [e] at h ⊢
  · cases h
  · cases h
  · exact ⟨rfl, rfl⟩

theorem verifyFast_parses (pk msg sig : List Nat) :
    (verifyFast pk msg sig).pubkeyParses = (verifyRef pk msg sig).pubkeyParses ∧
    (verifyFast pk msg sig).sigParses = (verifyRef pk msg sig).sigParses := by
  unfold verifyFast verifyRef
  by_cases h1 : pk.length ≠ 32
  · rw [if_pos h1, if_pos h1]; exact ⟨rfl, rfl⟩
  rw [if_neg h1, if_neg h1]
  rcases liftX (natOfBytes pk) with _ | ⟨px, py⟩
  · exact ⟨rfl, rfl⟩
  dsimp only
  by_cases h3 : sig.length ≠ 64
  · rw [if_pos h3, if_pos h3]; exact ⟨rfl, rfl⟩
  rw [if_neg h3, if_neg h3]
  by_cases h4 : natOfBytes (sig.take 32) ≥ p ∨ natOfBytes (sig.drop 32) ≥ n
  · rw [if_pos h4, if_pos h4]; exact ⟨rfl, rfl⟩
  · rw [if_neg h4, if_neg h4]; exact ⟨rfl, rfl⟩

theorem verifyLib_eq_of_s_lt (pk msg sig : List Nat) (hs : natOfBytes (sig.drop 32) < n) :
    verifyLib pk msg sig = verifyFast pk msg sig := by
  unfold verifyLib verifyFast
  by_cases h1 : pk.length ≠ 32
  · rw [if_pos h1, if_pos h1]
  rw [if_neg h1, if_neg h1]
  rcases liftX (natOfBytes pk) with _ | ⟨px, py⟩
  · rfl
  dsimp only
  by_cases h3 : sig.length ≠ 64
  · rw [if_pos h3, if_pos h3]
  rw [if_neg h3, if_neg h3]
  -- the library tests `r` only; with `s` in range that is the BIP's test, and `s % n` is `s`
  by_cases hr : natOfBytes (sig.take 32) ≥ p
  · rw [if_pos hr, if_pos (Or.inl hr)]
  · rw [if_neg hr, if_neg (fun h => h.elim hr (Nat.not_le.2 hs)), Nat.mod_eq_of_lt hs]

/-- where they can differ, `s` is one of the fewer than 2^129 values `n ≤ s < 2^256` (the library then checks with
    `s mod n`) -/
theorem out_of_range_s_window : 2 ^ 256 - n < 2 ^ 129 := by decide

end Moc.Bip340

namespace Moc.C01
open Moc.Bip340

theorem verifyFull_true_iff (e : Event) :
    verifyFull e = .ok true ↔
      ∃ idBin pk sg, hexDecode e.id.toList = some idBin ∧
        hexDecode (Sha256.hexHash (String.ofList (serializeChars e))).toList = some idBin ∧
        hexDecode e.pubkey.toList = some pk ∧ hexDecode e.sig.toList = some sg ∧
        verifyLib pk idBin sg = ⟨true, true, true⟩ := by
  unfold verifyFull
  rw [verify_true_iff]
  constructor
  · rintro ⟨⟨idBin, h1, h2⟩, h3, h4, h5, h6, h7⟩
    obtain ⟨pk, hpk⟩ := Option.isSome_iff_exists.1 h3
    obtain ⟨sg, hsg⟩ := Option.isSome_iff_exists.1 h5
    refine ⟨idBin, pk, sg, h1, h2, hpk, hsg, ?_⟩
    simp only [sigOracleOf, hpk, h1, hsg, Option.getD_some] at h4 h6 h7
    cases hv : verifyLib pk idBin sg with
    | mk a b c => rw [hv] at h4 h6 h7; simp_all
  · rintro ⟨idBin, pk, sg, h1, h2, hpk, hsg, hv⟩
    refine ⟨⟨idBin, h1, h2⟩, by simp [hpk], ?_, by simp [hsg], ?_, ?_⟩ <;>
      simp [sigOracleOf, hpk, h1, hsg, hv]

/-- the BIP's algorithm in its fast version: `verifyFast = verifyRef` is not proved -/
theorem verifyFull_true_bip340 (e : Event) (h : verifyFull e = .ok true) :
    ∃ idBin pk sg, hexDecode e.id.toList = some idBin ∧ hexDecode e.pubkey.toList = some pk ∧
      hexDecode e.sig.toList = some sg ∧
      (natOfBytes (sg.drop 32) < n → verifyFast pk idBin sg = ⟨true, true, true⟩) := by
  obtain ⟨idBin, pk, sg, h1, _, h3, h4, hv⟩ := (verifyFull_true_iff e).1 h
  exact ⟨idBin, pk, sg, h1, h3, h4, fun hs => by rw [← verifyLib_eq_of_s_lt pk idBin sg hs]; exact hv⟩

theorem verifyFull_bad_signature (e : Event) (h : (sigOracleOf e).verifies = false) :
    verifyFull e ≠ .ok true :=
  bad_signature_not_authentic _ _ e h

/-- non-vacuity of the parse facts: the BIP's first test vector has a public key on the curve and `r`, `s` in range -/
example : (liftX 0xF9308A019258C31049344F85F89D5229B531C845836F99B08601F113BCE036F9).isSome = true ∧
    0xE907831F80848D1069A5371B402410364BDF1C5F8307B0084C55F1CE2DCA8215 < p ∧
    0x25F66A4A85EA8B71E482A74F382D2CE5EBEEE8FDB2172F477DF4900D310536C0 < n := by
  refine ⟨?_, by decide, by decide⟩
  decide +kernel

end Moc.C01
