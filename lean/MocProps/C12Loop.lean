/-
  C12, "the connection stays usable": the WebSocket write loop must always come back to its `select` without
  waiting for anything the READ loop has to provide — the read loop hands every rejection (NOTICE) to the write
  loop, so a write loop that waits for a pong (which only the read loop can read) deadlocks with it until the send
  timeout and the connection is dropped (defect D16, repaired in e4f9bc8).

  `Gen.writeLoopSyncCalls` is regenerated from relay.go on every run: the functions `serveWriteLoop` calls in its own
  goroutine (calls inside `go func() {…}()` are not listed).
-/
import MocModel.Gen.Sites

namespace Moc.C12

/-! The four facts below are about two regenerated lists of call names: they are evaluated.  `+kernel`, because the
    elaborator's own evaluation of string comparisons is slow and the kernel repeats it anyway. -/

/-- calls that return only after the peer's next frame has been read -/
def waitsForPeer : List String := ["relay.sendPingWithTimeout", "conn.Ping", "conn.Read", "conn.Reader"]

/-- a ping's pong is awaited in a goroutine of its own -/
theorem write_loop_never_waits_for_peer : ∀ c ∈ Gen.writeLoopSyncCalls, c ∉ waitsForPeer := by decide +kernel

/-- the only socket operation of the write loop is the write bounded by the send timeout (C13 `write_deadline_applies`) -/
theorem write_loop_writes_bounded :
    "relay.sendMsgWithTimeout" ∈ Gen.writeLoopSyncCalls ∧ "conn.Write" ∉ Gen.writeLoopSyncCalls := by decide +kernel

/-- the read step hands messages over only through the cancellable helpers -/
theorem read_step_handovers :
    (Gen.readLoopSyncCalls.filter fun c => c == "sendServerMsgCtx" || c == "sendCtx" || c == "send <-" || c == "recv <-")
      = ["sendServerMsgCtx", "sendCtx"] := by decide +kernel

/-- the functions the gate calls, each once, in the order of their first call: the frame is read, tested
    (`utf8.Valid`, `json.Valid`), parsed, validated, verified and handed over; a transforming step that is a call
    (a trimming or re-encoding function) would appear here, one written with slicing or operators would not -/
theorem read_step_calls :
    Gen.readLoopSyncCalls.filter (fun c => c != "relay.logWarn" && c != "fmt.Errorf") =
      ["limiter.Wait", "conn.Read", "NewServerNoticeMsgf", "sendServerMsgCtx", "utf8.Valid", "json.Valid",
       "ParseClientMsg", "ValidClientMsg", "msg.Event.Verify", "NewServerNoticeMsg", "sendCtx"] := by decide +kernel

end Moc.C12
