/-
  C03 / C04 / C05 — the tree and index MAINTENANCE code refines the abstract store.

  `MocModel/CacheC.lean` keeps `evsCreatedAt` and `evsIndex.idx` as state, updated by every operation the way
  event_cache.go does, and reads them where the Go code reads them.  Here: for every insertion history over a
  universe of events whose ids determine them, the concrete model returns the same flags, holds the same maps and
  answers every query exactly as the abstract model whose tree and index are derived views
  (`concrete_refines_abstract`).  Hence every theorem of C03, C04, C05 and C16 about the abstract store holds of the
  concrete one.  Not proved: that the treemap library and Go's maps behave as a sorted list and as finite maps; at run
  time the model's tables are compared with the implementation's own (hook `VerifState`) after every insertion.

  Every concrete operation is a sequence of two steps: a retained event leaves all three tables (`inv_remove`), an
  event with a fresh key enters all three (`inv_put`).  The rest is control flow, carried by the simulation
  relation `Sim`.
-/
import MocProps.C04
import MocProps.CacheCLemmas
import MocProps.C03Find

namespace Moc.C04R
open Moc.CacheL Moc.C03 Moc.CacheCL

/-- `inU`: over `U`, where ids determine events, the tree order is total.  `nodup`: an index set is a Go map; needed
    where the by-id loop ranges over one (`idIndex_eq`). -/
structure CInv (U : List Event) (c : CCache) : Prop where
  keys : (c.a.evs.map eventKey).Nodup
  inU : ∀ x ∈ c.a.evs, x ∈ U
  sorted : Sorted c.tree
  tree : ∀ x, x ∈ c.tree ↔ x ∈ c.a.evs
  idx : ∀ k x, x ∈ ixGet c.idx k ↔ (x ∈ c.a.evs ∧ k ∈ idxKeys x)
  nodup : ∀ k, (ixGet c.idx k).Nodup

theorem inv_init (U : List Event) (cap : Int) : CInv U (CCache.init cap) where
  keys := List.nodup_nil
  inU _ hx := nomatch hx
  sorted := List.Pairwise.nil
  tree _ := Iff.rfl
  idx _ _ := ⟨fun hx => (nomatch hx), fun hx => (nomatch hx.1)⟩
  nodup _ := List.nodup_nil

theorem id_mem_idxKeys (x : Event) (v : String) : IdxKey.id v ∈ idxKeys x ↔ v = x.id := by
  simp [idxKeys]
theorem author_mem_idxKeys (x : Event) (v : String) : IdxKey.author v ∈ idxKeys x ↔ v = x.pubkey := by
  simp [idxKeys]
theorem kind_mem_idxKeys (x : Event) (v : Int) : IdxKey.kind v ∈ idxKeys x ↔ v = x.kind := by
  simp [idxKeys]
theorem tag_mem_idxKeys (x : Event) (n v : String) : IdxKey.tag n v ∈ idxKeys x ↔ (n, v) ∈ idxTagPairs x := by
  simp [idxKeys]

/-- the id index hands the by-id loop exactly the events the abstract model finds by scanning the map -/
theorem idIndex_eq (U : List Event) (hU : IdInj U) (c : CCache) (h : CInv U c) (k : String) :
    ixGet c.idx (.id k) = c.a.evs.filter (fun x => x.id == k) := by
  have hmem : ∀ x, x ∈ ixGet c.idx (.id k) ↔ x ∈ c.a.evs.filter (fun x => x.id == k) := fun x => by
    rw [h.idx, id_mem_idxKeys, List.mem_filter, beq_iff_eq, eq_comm]
  refine eq_of_subsingleton (h.nodup _) ((nodup_of_map_nodup eventKey _ h.keys).filter _) hmem fun a ha b hb => ?_
  have ha' := (h.idx _ a).1 ha
  have hb' := (h.idx _ b).1 hb
  exact hU a (h.inU a ha'.1) b (h.inU b hb'.1)
    (((id_mem_idxKeys a k).1 ha'.2).symm.trans ((id_mem_idxKeys b k).1 hb'.2))

section
variable {U : List Event} {c : CCache} {a : Cache}

-- the index is read through `ixGet_ixAdd` / `ixGet_ixDelete`; kept from unfolding, so that the unifier reduces
-- the projections of a concrete store instead
attribute [local irreducible] ixAdd ixDelete

theorem inv_remove (hU : IdInj U) (h : CInv U c) {cand : Event} (hc : cand ∈ c.a.evs) {a' : Cache}
    (hk : (a'.evs.map eventKey).Nodup) (hm : ∀ x, x ∈ a'.evs ↔ x ∈ c.a.evs ∧ x ≠ cand) :
    CInv U { a := a', tree := tDel cand c.tree, idx := ixDelete c.idx cand } where
  keys := hk
  inU x hx := h.inU x ((hm x).1 hx).1
  sorted := List.Pairwise.filter _ h.sorted
  tree x := by
    rw [mem_tDel hU (h.inU cand hc) fun x hx => h.inU x ((h.tree x).1 hx), hm, h.tree]
  idx k x := by
    rw [ixGet_ixDelete, hm, and_right_comm]
    by_cases hkc : k ∈ idxKeys cand
    · rw [if_pos hkc, List.mem_filter, h.idx, bne_iff_ne]
    · rw [if_neg hkc, h.idx]
      exact (and_iff_left_of_imp fun ⟨_, hx⟩ he => hkc (he ▸ hx)).symm
  nodup k := nodup_ixDelete c.idx cand k (h.nodup k)

theorem inv_put (hU : IdInj U) (h : CInv U c) {e : Event} (he : e ∈ U)
    (hfresh : ∀ x ∈ c.a.evs, eventKey x ≠ eventKey e) : CInv U (c.put e) where
  keys := keys_nodup_cons c.a.evs e hfresh h.keys
  inU x hx := by
    rcases List.mem_cons.1 hx with rfl | hx
    · exact he
    · exact h.inU x hx
  sorted := insertOrd_sorted e c.tree h.sorted
  tree x := by
    show x ∈ insertOrd e c.tree ↔ x ∈ e :: c.a.evs
    rw [mem_insertOrd hU he fun x hx => h.inU x ((h.tree x).1 hx), h.tree, List.mem_cons]
  idx k x := by
    show x ∈ ixGet (ixAdd c.idx e) k ↔ x ∈ e :: c.a.evs ∧ _
    rw [ixGet_ixAdd, List.mem_cons, or_and_right]
    by_cases hk : k ∈ idxKeys e
    · rw [if_pos hk, List.mem_insert_iff, h.idx]
      exact or_congr_left (iff_self_and.2 fun he => he ▸ hk)
    · rw [if_neg hk, h.idx]
      exact (or_iff_right fun ⟨he, hx⟩ => hk (he ▸ hx)).symm
  nodup k := nodup_ixAdd c.idx e k (h.nodup k)

def Sim (U : List Event) (c : CCache) (a : Cache) : Prop := c.a = a ∧ CInv U c

theorem delete_sim (hU : IdInj U) (k p : String) (h : Sim U c a) :
    Sim U (c.delete k p) (a.delete k p) := by
  obtain ⟨rfl, h⟩ := h
  rcases cdelete_cases c k p with ⟨h1, h2⟩ | ⟨cand, hl, hp, h1⟩ <;> rw [h1]
  · exact ⟨h2.symm, h⟩
  · obtain ⟨hcm, hck⟩ := lookup_mem c.a k cand hl
    -- with distinct keys the event that goes is the one found
    exact ⟨rfl, inv_remove hU h hcm (keys_nodup_delete c.a k p h.keys) fun x =>
      (mem_delete_evs c.a k p h.keys x).trans (and_congr_right fun hx => not_congr
        ⟨fun hkp => key_inj c.a h.keys x cand hx hcm (hkp.1.trans hck.symm), fun hxc => hxc ▸ ⟨hck, hp⟩⟩)⟩

theorem put_sim (hU : IdInj U) (h : Sim U c a) {e : Event} (he : e ∈ U)
    (hfresh : ∀ x ∈ a.evs, eventKey x ≠ eventKey e) : Sim U (c.put e) { a with evs := e :: a.evs } := by
  obtain ⟨rfl, h⟩ := h
  exact ⟨rfl, inv_put hU h he hfresh⟩

def SimF (U : List Event) (p : CCache × Bool) (q : Cache × Bool) : Prop := Sim U p.1 q.1 ∧ p.2 = q.2

theorem addEv_sim (hU : IdInj U) (h : Sim U c a) {e : Event} (he : e ∈ U) :
    SimF U (c.addEv (eventKey e) e) (a.addEv (eventKey e) e) := by
  cases h.1
  unfold CCache.addEv Cache.addEv
  cases hl : c.a.lookup (eventKey e) with
  | none => exact ⟨put_sim hU h he (lookup_none c.a _ hl), rfl⟩
  | some old =>
    refine ite_rel (SimF U) (fun _ => ⟨h, rfl⟩) fun _ => ⟨put_sim hU (delete_sim hU _ _ h) he fun x hx => ?_, rfl⟩
    rw [delete_own c.a _ old hl] at hx
    exact bne_iff_ne.1 (List.mem_filter.1 hx).2

theorem deleteById_sim (hU : IdInj U) (k p : String) (h : Sim U c a) :
    Sim U (c.deleteById k p) ((a.evs.filter (fun x => x.id == k)).foldl (fun a x => a.delete (eventKey x) p) a) := by
  cases h.1
  unfold CCache.deleteById
  rw [idIndex_eq U hU c h.2 k]
  exact List.foldl_rel h fun x _ _ _ => delete_sim hU _ _

theorem deleteByKind5_sim (hU : IdInj U) (e : Event) (h : Sim U c a) :
    Sim U (c.deleteByKind5 e) (a.deleteByKind5 e) :=
  List.foldl_rel h fun k _ _ _ h => deleteById_sim hU k e.pubkey (delete_sim hU k e.pubkey h)

theorem evict_sim (hU : IdInj U) (h : Sim U c a) : Sim U c.evict (CacheL.evict a) := by
  cases h.1
  unfold CCache.evict CacheL.evict
  rw [getLast_eq_oldestOf U hU c.a.evs c.tree h.2.inU h.2.sorted h.2.tree]
  refine ite_rel (Sim U) (fun _ => ?_) fun _ => h
  cases oldestOf c.a.evs with
  | none => exact h
  | some o => exact delete_sim hU _ _ h

/-- `addKind5` writes the registry only, which `CInv` does not read: every field of `h.2` has, up to reduction of the
    projections, the type asked for -/
theorem addKind5_sim (e : Event) (h : Sim U c a) : Sim U (c.addKind5 e) (a.addKind5 e) :=
  ⟨congrArg (·.addKind5 e) h.1, { h.2 with }⟩

theorem afterAdd_sim (hU : IdInj U) (e : Event) (h : Sim U c a) :
    Sim U (c.afterAdd e) (CacheL.evict (process a e)) :=
  -- `CCache.afterAdd` and `process` unfold (by unification) to the same `if` on `Gen.addIsKind5 e.kind`, then `evict`
  evict_sim hU (ite_rel (Sim U) (fun _ => deleteByKind5_sim hU e (addKind5_sim e h)) fun _ => h)

theorem add_sim (hU : IdInj U) (h : Sim U c a) {e : Event} (he : e ∈ U) : SimF U (c.add e) (a.add e) := by
  cases h.1
  obtain ⟨hs, hb⟩ := addEv_sim hU h he
  rw [add_eq_ite, ← hb]
  exact ite_rel (SimF U) (fun _ => ⟨h, rfl⟩) fun _ => ite_rel (SimF U) (fun _ => ⟨h, rfl⟩) fun _ =>
    ite_rel (SimF U) (fun _ => ⟨afterAdd_sim hU e hs, rfl⟩) fun _ => ⟨h, rfl⟩

end

theorem add_refines (U : List Event) (hU : IdInj U) (c : CCache) (h : CInv U c) (e : Event) (he : e ∈ U) :
    (c.add e).1.a = (c.a.add e).1 ∧ (c.add e).2 = (c.a.add e).2 ∧ CInv U (c.add e).1 :=
  have ⟨⟨h1, h2⟩, h3⟩ := add_sim hU ⟨rfl, h⟩ he
  ⟨h1, h3, h2⟩

def runC (c : CCache) (es : List Event) : CCache := es.foldl (fun c e => (c.add e).1) c

def flagsC (c : CCache) : List Event → List Bool
  | [] => []
  | e :: es => (c.add e).2 :: flagsC (c.add e).1 es

def flagsA (a : Cache) : List Event → List Bool
  | [] => []
  | e :: es => (a.add e).2 :: flagsA (a.add e).1 es

theorem run_sim {U : List Event} (hU : IdInj U) (es : List Event) (hes : ∀ e ∈ es, e ∈ U) {c : CCache} {a : Cache}
    (h : Sim U c a) : Sim U (runC c es) (C04.run a es) ∧ flagsC c es = flagsA a es := by
  induction es generalizing c a with
  | nil => exact ⟨h, rfl⟩
  | cons e es ih =>
    obtain ⟨h1, h2⟩ := add_sim hU h (hes e List.mem_cons_self)
    obtain ⟨r1, r2⟩ := ih (fun x hx => hes x (List.mem_cons_of_mem _ hx)) h1
    refine ⟨r1, ?_⟩
    show (c.add e).2 :: flagsC _ es = (a.add e).2 :: flagsA _ es
    rw [h2, r2]

theorem mem_unionInto (s acc : List Event) (x : Event) : x ∈ unionInto acc s ↔ x ∈ acc ∨ x ∈ s := by
  induction s generalizing acc with
  | nil => simp [unionInto]
  | cons y ys ih =>
    show x ∈ unionInto (acc.insert y) ys ↔ _
    rw [ih, List.mem_insert_iff, List.mem_cons, or_assoc, or_left_comm]

theorem nodup_unionInto (s acc : List Event) (h : acc.Nodup) : (unionInto acc s).Nodup :=
  List.foldlRecOn s _ h fun _ hb e _ => nodup_insert e hb

theorem mem_condSet (idx : Idx) (ks : List IdxKey) (x : Event) :
    x ∈ condSet idx ks ↔ ∃ k ∈ ks, x ∈ ixGet idx k := by
  suffices ∀ acc, x ∈ ks.foldl (fun a k => unionInto a (ixGet idx k)) acc ↔ x ∈ acc ∨ ∃ k ∈ ks, x ∈ ixGet idx k by
    simpa [condSet] using this []
  induction ks with
  | nil => simp
  | cons k ks ih =>
    intro acc
    simp only [List.foldl_cons, ih, mem_unionInto, List.mem_cons, exists_eq_or_imp, or_assoc]

theorem nodup_condSet (idx : Idx) (ks : List IdxKey) : (condSet idx ks).Nodup :=
  List.foldlRecOn ks _ List.nodup_nil fun _ hb _ _ => nodup_unionInto _ _ hb

theorem insertBySize_perm (s : List Event) (ss : List (List Event)) : (insertBySize s ss).Perm (s :: ss) := by
  induction ss with
  | nil => exact .refl _
  | cons x xs ih =>
    unfold insertBySize
    split
    · exact .refl _
    · exact (ih.cons x).trans (.swap s x xs)

/-- only this is used of the order by size -/
theorem sortBySize_perm (ss : List (List Event)) : (sortBySize ss).Perm ss := by
  induction ss with
  | nil => exact .refl _
  | cons s ss ih => exact (insertBySize_perm s _).trans (ih.cons s)

theorem mem_intersectAll (ss : List (List Event)) (hne : ss ≠ []) (x : Event) :
    x ∈ intersectAll ss ↔ ∀ s ∈ ss, x ∈ s := by
  cases ss with
  | nil => exact absurd rfl hne
  | cons m rest =>
    simp only [intersectAll, List.mem_filter, List.all_eq_true, List.contains_iff_mem, List.forall_mem_cons]

theorem nodup_intersectAll (ss : List (List Event)) (h : ∀ s ∈ ss, s.Nodup) : (intersectAll ss).Nodup := by
  cases ss with
  | nil => exact List.nodup_nil
  | cons m rest => exact (h m List.mem_cons_self).filter _

/-- one listed condition (ids, authors, kinds) of `filterKeys_match`: its summand of `filterKeys` is a one-element list -/
theorem listed_hit {α} [BEq α] [LawfulBEq α] {mk : α → IdxKey} {x : Event} {v : α}
    (hmk : ∀ w, mk w ∈ idxKeys x ↔ w = v) (l : List α) :
    (∀ ks ∈ [l.map mk], ∃ k ∈ ks, k ∈ idxKeys x) ↔ l.contains v = true := by
  simp only [List.forall_mem_singleton, exists_mem_map, hmk, exists_eq_right, List.contains_iff_mem]

theorem filterKeys_match (f : Filter) (x : Event) :
    (∀ ks ∈ filterKeys f, ∃ k ∈ ks, k ∈ idxKeys x) ↔ idxCandidate f x = true := by
  unfold filterKeys idxCandidate listedOr
  simp only [List.forall_mem_append, Bool.and_eq_true]
  refine and_congr (and_congr (and_congr ?_ ?_) ?_) ?_
  · cases f.ids with
    | none => exact iff_of_true (fun _ h => nomatch h) rfl
    | some l => exact listed_hit (id_mem_idxKeys x) l
  · cases f.authors with
    | none => exact iff_of_true (fun _ h => nomatch h) rfl
    | some l => exact listed_hit (author_mem_idxKeys x) l
  · cases f.kinds with
    | none => exact iff_of_true (fun _ h => nomatch h) rfl
    | some l => exact listed_hit (kind_mem_idxKeys x) l
  · cases f.tags with
    | none => exact iff_of_true (fun _ h => nomatch h) rfl
    | some l =>
      simp only [List.forall_mem_map, exists_mem_map, tag_mem_idxKeys, List.all_eq_true, List.any_eq_true,
        List.contains_iff_mem]

theorem isEmpty_filterKeys (f : Filter) : (filterKeys f).isEmpty = isFullScanFilter f := by
  unfold filterKeys isFullScanFilter Gen.isFullScan
  rcases f.ids with _ | _
  · rcases f.authors with _ | _
    · rcases f.kinds with _ | _
      · rcases f.tags with _ | _ | _ <;> rfl
      · rfl
    · rfl
  · rfl

/-- the `cands` of `CCache.findIdx` (the intersection of the unions of index sets) are, without repetition, the `cands`
    of `Cache.findIdx` (the retained events passing `idxCandidate`) -/
theorem cands_spec (U : List Event) (c : CCache) (h : CInv U c) (f : Filter) (hfs : isFullScanFilter f = false) :
    (intersectAll (sortBySize ((filterKeys f).map (condSet c.idx)))).Nodup ∧
    ∀ x, x ∈ intersectAll (sortBySize ((filterKeys f).map (condSet c.idx))) ↔ x ∈ c.a.evs ∧ idxCandidate f x = true := by
  have hp := sortBySize_perm ((filterKeys f).map (condSet c.idx))
  have hfk : filterKeys f ≠ [] := fun hnil => by rw [← isEmpty_filterKeys, hnil] at hfs; cases hfs
  refine ⟨nodup_intersectAll _ fun s hs => ?_, fun x => ?_⟩
  · obtain ⟨ks, _, rfl⟩ := List.mem_map.1 (hp.mem_iff.1 hs)
    exact nodup_condSet _ _
  · rw [mem_intersectAll _ (fun hnil => hfk (List.map_eq_nil_iff.1 (hnil ▸ hp).symm.eq_nil)), ← filterKeys_match]
    simp only [hp.mem_iff, List.forall_mem_map, mem_condSet, h.idx]
    -- `x ∈ c.a.evs` comes out of any one of the conditions, and there is one
    obtain ⟨ks0, hks0⟩ := List.exists_mem_of_ne_nil _ hfk
    exact ⟨fun hall => ⟨let ⟨_, _, hx, _⟩ := hall ks0 hks0; hx,
        fun ks hks => let ⟨k, hk, _, hkx⟩ := hall ks hks; ⟨k, hk, hkx⟩⟩,
      fun ⟨hx, hall⟩ ks hks => let ⟨k, hk, hkx⟩ := hall ks hks; ⟨k, hk, hx, hkx⟩⟩

section
variable {U : List Event} {c : CCache}

theorem storeOK_of_inv (hU : IdInj U) (hne : ∀ x ∈ U, C02.TagsNonEmpty x) (h : CInv U c) : StoreOK c.a :=
  storeOK_of_keys hU hne h.inU h.keys

theorem tree_eq_byTime (hU : IdInj U) (h : CInv U c) : c.tree = c.a.byTime :=
  eq_sortOrd hU h.sorted h.inU h.tree

theorem cfindIdx_eq (hU : IdInj U) (hne : ∀ x ∈ U, C02.TagsNonEmpty x) (h : CInv U c) {f : Filter} (hf : FilterOK f)
    (hfs : isFullScanFilter f = false) {perm : List Event → List Event} (hperm : ∀ l, (perm l).Perm l) :
    c.findIdx perm f = .ok (topOf c.a f) := by
  unfold CCache.findIdx
  dsimp only
  obtain ⟨hnd, hmem⟩ := cands_spec U c h f hfs
  have hp := hperm (intersectAll (sortBySize ((filterKeys f).map (condSet c.idx))))
  rw [← hp.length_eq]
  exact topk_eq_topOf c.a (storeOK_of_inv hU hne h) f hf _ (hp.nodup_iff.2 hnd) fun x => by rw [hp.mem_iff, hmem]

theorem findStep_refines (hU : IdInj U) (hne : ∀ x ∈ U, C02.TagsNonEmpty x) (h : CInv U c)
    {perm : List Event → List Event} (hperm : ∀ l, (perm l).Perm l) {f : Filter} (hf : FilterOK f)
    (acc : Res (List Event)) : c.findStep perm acc f = c.a.findStep id acc f := by
  have hstep : (if isFullScanFilter f then scanLoop { f := f } c.tree else c.findIdx perm f) =
      (if isFullScanFilter f then scanLoop { f := f } c.a.byTime else c.a.findIdx id f) := by
    rw [tree_eq_byTime hU h]
    refine ite_rel Eq (fun _ => rfl) fun hs => ?_
    rw [cfindIdx_eq hU hne h hf (Bool.eq_false_iff.2 hs) hperm,
      idx_eq_topOf c.a (storeOK_of_inv hU hne h) f hf id fun l => .refl l]
  unfold CCache.findStep Cache.findStep
  rw [hstep]
  rfl

end

theorem find_refines (U : List Event) (hU : IdInj U) (hne : ∀ x ∈ U, C02.TagsNonEmpty x) (c : CCache) (h : CInv U c)
    (perm : List Event → List Event) (hperm : ∀ l, (perm l).Perm l) (fs : List Filter) (hfs : ∀ f ∈ fs, FilterOK f) :
    c.find perm fs = c.a.find id fs :=
  -- `CCache.find` and `Cache.find` unfold (by unification) to the same `if` in front of a `foldl` of the two `findStep`s
  ite_rel Eq (fun _ => rfl) fun _ => List.foldl_rel rfl fun f hf acc _ hacc =>
    hacc ▸ findStep_refines hU hne h hperm (hfs f hf) acc

theorem concrete_refines_abstract (cap : Int) (es : List Event) (hU : IdInj es)
    (hne : ∀ x ∈ es, C02.TagsNonEmpty x) (perm : List Event → List Event) (hperm : ∀ l, (perm l).Perm l)
    (fs : List Filter) (hfs : ∀ f ∈ fs, FilterOK f) :
    flagsC (CCache.init cap) es = flagsA { cap := cap } es ∧
    (runC (CCache.init cap) es).a = C04.run { cap := cap } es ∧
    (runC (CCache.init cap) es).find perm fs = (C04.run { cap := cap } es).find id fs := by
  obtain ⟨⟨ha, hi⟩, hf⟩ := run_sim hU es (fun _ he => he) ⟨rfl, inv_init es cap⟩
  exact ⟨hf, ha, by rw [find_refines es hU hne _ hi perm hperm fs hfs, ha]; rfl⟩

theorem tables_consistent (cap : Int) (es : List Event) (hU : IdInj es) :
    let c := runC (CCache.init cap) es
    c.tree = c.a.byTime ∧ ∀ k x, x ∈ ixGet c.idx k ↔ (x ∈ c.a.evs ∧ k ∈ idxKeys x) := by
  obtain ⟨⟨_, hi⟩, _⟩ := run_sim hU es (fun _ he => he) ⟨rfl, inv_init es cap⟩
  exact ⟨tree_eq_byTime hU hi, hi.idx⟩

-- a replacement (`c` by `d`) and a deletion request (`k` names `a`) through the maintained tables
def exE (id : String) (t : Int) (k : Int) : Event := { id := id, pubkey := "p", createdAt := t, kind := k, tags := [["t", "x"]], content := "", sig := "" }
def exHist : List Event := [exE "a" 5 1, exE "b" 7 1, exE "c" 7 10002, exE "d" 9 10002, { exE "k" 8 5 with tags := [["e", "a"]] }]

example : IdInj exHist := by unfold IdInj; decide +kernel
example : (runC (CCache.init 3) exHist).tree.map (·.id) = ["d", "k", "b"] := by decide +kernel
example : flagsC (CCache.init 3) exHist = [true, true, true, true, true] := by decide +kernel

end Moc.C04R
