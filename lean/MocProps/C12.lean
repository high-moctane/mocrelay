/-
  C12 — WebSocket session: only valid authentic messages reach the handler.

  Model: `gate` (MocModel/Serialize.lean) = the chain of tests of `Relay.serveRead`, conditions and NOTICE
  texts regenerated from relay.go.  The WebSocket framing, the two goroutines of a session and the write
  loop are exercised over real connections (runtime-validated), not proved.

  Here the verdicts of `utf8.Valid` / `json.Valid`, of the parser and of `Verify` are inputs of the gate; C12E2E.lean
  puts the model's own parser, validator and verifier in their place.  Outbound messages: C12Out.lean.  The
  synchronous calls of the two loops: C12Loop.lean.
-/
import MocModel.Serialize

namespace Moc.C12

/-- the EVENT-only authenticity block and the forwarding call are the ones translated by `gate` -/
theorem gate_source_pinned :
    Gen.gateOnlyEvents = gateExpectedEventsOnly ∧ Gen.gateForward = "sendCtx(ctx, recv, msg)" := by
  exact ⟨rfl, rfl⟩

/-- the frame passes every test of `serveRead` and parses to `m`; the verdict of `Verify` counts for an EVENT only -/
def Acceptable (isText utf8Valid jsonValid : Bool) (parsed : DecE ClientMsg) (ver : VerifyRes) (m : ClientMsg) : Prop :=
  isText = true ∧ utf8Valid = true ∧ jsonValid = true ∧ parsed = .ok m ∧ validClientMsg m = true ∧
  (∀ e, m = .event e → ver = .ok true)

theorem gate_forwards_iff (isText utf8Valid jsonValid : Bool) (payload : String) (parsed : DecE ClientMsg)
    (ver : VerifyRes) (m : ClientMsg) :
    gate isText utf8Valid jsonValid payload parsed ver = .forward m ↔
      Acceptable isText utf8Valid jsonValid parsed ver m := by
  constructor
  · intro h
    unfold gate at h
    -- a test that fails ends in a NOTICE (`cases h`), so each has passed: frame type, UTF-8, JSON, parser, validator,
    -- and for an EVENT the signature
    cases isText
    · cases h
    cases utf8Valid
    · cases h
    cases jsonValid
    · cases h
    cases parsed with
    | error err => cases h
    | ok m' =>
      dsimp only at h
      cases hv : validClientMsg m'
      · rw [hv] at h; cases h
      rw [hv] at h
      cases m' with
      | event e =>
        cases ver with
        | error => cases h
        | ok v =>
          cases v
          · cases h
          · cases h; exact ⟨rfl, rfl, rfl, rfl, hv, fun _ _ => rfl⟩
      | _ => cases h; exact ⟨rfl, rfl, rfl, rfl, hv, fun e he => by cases he⟩
  · rintro ⟨rfl, rfl, rfl, rfl, hv, he⟩
    unfold gate
    dsimp only
    rw [hv]
    cases m with
    | event e => rw [he e rfl]; rfl
    | _ => rfl

theorem notice_of_not_forward (g : GateOut) (h : ∀ m, g ≠ .forward m) : ∃ n, g = .notice n := by
  cases g with
  | notice n => exact ⟨n, rfl⟩
  | forward m => exact absurd rfl (h m)

/-- "exactly one rejection and otherwise ignored": the gate's outcome is a single value, the forwarded message or one
    NOTICE -/
theorem gate_rejects_otherwise (isText utf8Valid jsonValid : Bool) (payload : String) (parsed : DecE ClientMsg)
    (ver : VerifyRes) (h : ∀ m, ¬ Acceptable isText utf8Valid jsonValid parsed ver m) :
    ∃ n, gate isText utf8Valid jsonValid payload parsed ver = .notice n :=
  notice_of_not_forward _ fun m hg => h m ((gate_forwards_iff _ _ _ payload _ _ m).1 hg)

/-- a received frame as the gate sees it: type and payload, with the verdicts of `utf8.Valid`, `json.Valid`,
    `ParseClientMsg` and `Verify` on it -/
structure Frame where
  isText : Bool
  utf8Valid : Bool
  jsonValid : Bool
  payload : String
  parsed : DecE ClientMsg
  ver : VerifyRes

def gateFrame (f : Frame) : GateOut := gate f.isText f.utf8Valid f.jsonValid f.payload f.parsed f.ver

/-- the read loop handles frames one at a time: what reaches the handler, in order -/
def inbound (frames : List Frame) : List ClientMsg :=
  frames.filterMap fun f => match gateFrame f with | .forward m => some m | .notice _ => none

/-- the NOTICE texts handed to the write loop, in order -/
def rejections (frames : List Frame) : List String :=
  frames.filterMap fun f => match gateFrame f with | .forward _ => none | .notice n => some n

/-- "once each and in the order sent" is in the definition of `inbound` (a `filterMap`); here: forwarded + rejected = frames
    sent, and what is forwarded are exactly the acceptable frames' messages. -/
theorem session_inbound (frames : List Frame) :
    (inbound frames).length + (rejections frames).length = frames.length ∧
    ∀ m, m ∈ inbound frames ↔ ∃ f ∈ frames, Acceptable f.isText f.utf8Valid f.jsonValid f.parsed f.ver m := by
  constructor
  · induction frames with
    | nil => rfl
    | cons f fs ih =>
      simp only [inbound, rejections, List.filterMap_cons] at ih ⊢
      -- a frame adds one to exactly one of the two lists
      cases gateFrame f <;> simp only [List.length_cons] <;> omega
  · intro m
    simp only [inbound, List.mem_filterMap]
    refine exists_congr fun f => and_congr_right fun _ => Iff.trans ?_ (gate_forwards_iff _ _ _ f.payload _ _ m)
    show _ ↔ gateFrame f = .forward m
    cases gateFrame f <;> simp

theorem session_order (a b : List Frame) : inbound (a ++ b) = inbound a ++ inbound b := by
  simp [inbound, List.filterMap_append]

example : gate true true true "x" (.ok (.close "s")) .error = .forward (.close "s") := by rfl
example : gate false true true "x" (.ok (.close "s")) .error = .notice "binary websocket message type is not allowed" := by rfl

end Moc.C12
