/-
  C09, trace level, COUNT: every COUNT gets exactly one COUNT reply over all histories and interleavings
  (`merged_count_exactly_once`) — the same argument as C09Trace.lean for the table of COUNT subscription ids.
-/
import MocModel.Merge
import MocProps.C09
namespace Moc.C09

abbrev CntV := String × Nat × Option Bool

def cntRows (st : MergeSt) (X : String) : List (List (Option CntV)) := (alGet st.cnt X).getD []

theorem countOf_isSome (row : List CntV) (h : row ≠ []) : (countOf row).isSome = true := by
  obtain ⟨x, hx, _, _⟩ := maxCount_spec row h
  simp [countOf, hx]

def projCnt (X : String) : List MStep → List (TOp CntV)
  | [] => []
  | .client m :: tr =>
    (match m with
     | .count sub _ => if sub = X then [TOp.req] else []
     | _ => []) ++ projCnt X tr
  | .child i msg :: tr =>
    (match msg with
     | .count sub c ap => if sub = X then [TOp.reply i (sub, c, ap)] else []
     | _ => []) ++ projCnt X tr

def cntEmits (X : String) : MergeSt → List MStep → Nat
  | _, [] => 0
  | st, .client m :: tr => cntEmits X (st.client m) tr
  | st, .child i msg :: tr =>
    (match msg with
     | .count sub _ _ => if sub = X then (outOf (st.child i msg).2).length else 0
     | _ => 0) + cntEmits X (st.child i msg).1 tr

theorem cnt_step (X : String) (st : MergeSt) (s : MStep) (tr : List MStep) (hn : 0 < st.n)
    (hlen : ∀ r ∈ cntRows st X, r.length = st.n) :
    ∃ ops, projCnt X (s :: tr) = ops ++ projCnt X tr ∧
      cntRows (step st s) X = (runTbl st.n (cntRows st X) ops).1 ∧
      cntEmits X st (s :: tr) = (runTbl st.n (cntRows st X) ops).2.length + cntEmits X (step st s) tr := by
  cases s with
  | client m =>
    cases m with
    | count sub fs =>
      obtain ⟨h1, h2⟩ := addRow_sim st.n st.cnt sub X
      exact ⟨_, rfl, h1, by rw [cntRows, h2]; exact (Nat.zero_add _).symm⟩
    | _ => exact ⟨[], rfl, rfl, (Nat.zero_add _).symm⟩
  | child i msg =>
    have hcnt : cntRows (step st (.child i msg)) X = _ := congrArg (cntRows · X) (child_tables st i msg)
    cases msg with
    | count sub c ap =>
      obtain ⟨h1, h2⟩ := reply_sim st.n hn st.cnt sub X i (sub, c, ap) hlen countOf countOf_isSome
      refine ⟨if sub = X then [.reply i (sub, c, ap)] else [], rfl, hcnt.trans h1, ?_⟩
      show (if sub = X then (outOf (.ok (sendCount st i sub c ap).2)).length else 0) + _ = _
      rw [sendCount_eq]; exact congrArg (· + _) h2
    | _ => exact ⟨[], rfl, hcnt, rfl⟩

theorem cntRows_run (X : String) (n : Nat) (hn : 0 < n) (tr : List MStep) :
    ∀ st : MergeSt, st.n = n → Inv n (cntRows st X) → (∀ i m, MStep.child i m ∈ tr → i < n) →
      cntRows (runMerge st tr).1 X = (runTbl n (cntRows st X) (projCnt X tr)).1 ∧
      cntEmits X st tr = (runTbl n (cntRows st X) (projCnt X tr)).2.length := by
  -- as in `okRows_run`: only `Inv.len` is used
  intro st hst hinv _
  subst hst
  exact sim_run (cntRows · X) (projCnt X) (cntEmits X) rfl (fun _ => rfl) (cnt_step X) tr st hn hinv.len

/-- C09 for COUNT: as `merged_event_exactly_once`, per COUNT subscription id; the reply carries a count no child exceeds
    (`maxCount_spec`, `sendCount_out`). -/
theorem merged_count_exactly_once (n : Nat) (hn : 0 < n) (X : String) (tr : List MStep)
    (hidx : ∀ i m, MStep.child i m ∈ tr → i < n) (hc : Causal n 0 (fun _ => 0) (projCnt X tr)) :
    cntEmits X { n := n } tr ≤ reqs (projCnt X tr) ∧
    (∀ j, j < n → cntEmits X { n := n } tr ≤ replies j (projCnt X tr)) ∧
    ((∀ j, j < n → replies j (projCnt X tr) = reqs (projCnt X tr)) →
      cntEmits X { n := n } tr = reqs (projCnt X tr) ∧ cntRows (runMerge { n := n } tr).1 X = []) := by
  obtain ⟨h1, h2⟩ := cntRows_run X n hn tr { n := n } rfl (inv_nil n) hidx
  rw [h1, h2]
  exact replies_exactly_once n hn (projCnt X tr) hc

end Moc.C09
