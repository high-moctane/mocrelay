import MocProps.C05Inv

/-!
  C05, the other half of "as long as it is retained": the registry never blocks on behalf of a request that is
  not retained.  `RegSound` (every registration belongs to a retained request of that author and id naming that key)
  is kept by every insertion (`add_rs`).  Hence in every reachable state an event the registry blocks is named by a
  retained deletion request of its author (`block_has_retained_request`), and the block lifts when the last such
  request leaves the store, deleted or evicted (`no_request_no_block`).  With `Inv2.rc` (completeness) the registry is
  EXACTLY the set of references of the retained requests (`registry_exact`).  The correspondence judges the
  implementation's own registry by the same criterion (monitor class `registry-orphan`).
-/

namespace Moc.C05
open Moc.CacheL Moc.C04

def RegSound (c : Cache) : Prop :=
  ∀ t ∈ c.deleted, ∃ d ∈ c.evs, d.kind = 5 ∧ d.pubkey = t.2.1 ∧ d.id = t.2.2 ∧ t.1 ∈ k5Refs d

theorem delete_rs (c : Cache) (k p : String) (hk : (c.evs.map eventKey).Nodup) (h : RegSound c) :
    RegSound (c.delete k p) := by
  intro t ht
  obtain ⟨ht0, hstay⟩ := (mem_delete_deleted c k p hk t).1 ht
  obtain ⟨d, hd, hd5, hdp, hdi, hdr⟩ := h t ht0
  exact ⟨d, hstay d hd hd5 hdp hdi hdr, hd5, hdp, hdi, hdr⟩

theorem addKind5_rs (c : Cache) (e : Event) (he : e ∈ c.evs) (h5 : e.kind = 5) (h : RegSound c) :
    RegSound (c.addKind5 e) := by
  intro t ht
  rcases (addKind5_deleted_mem c e t).1 ht with h0 | ⟨hr, hp, hi⟩
  · exact h t h0
  · exact ⟨e, he, h5, hp.symm, hi.symm, hr⟩

theorem add_rs (c : Cache) (e : Event) (hk : (c.evs.map eventKey).Nodup) (hs : RegSound c) :
    ((c.add e).1.evs.map eventKey).Nodup ∧ RegSound (c.add e).1 := by
  refine add_props (fun c => (c.evs.map eventKey).Nodup ∧ RegSound c) c e
    (fun c k p h => ⟨keys_nodup_delete c k p h.1, delete_rs c k p h.1 h.2⟩)
    (fun c0 h hf => ⟨keys_nodup_cons c0.evs e hf h.1, fun t ht => ?_⟩)
    (fun h5 c1 h he => ⟨h.1, addKind5_rs c1 e he h5 h.2⟩) ⟨hk, hs⟩
  obtain ⟨d, hd, r⟩ := h.2 t ht
  exact ⟨d, List.mem_cons_of_mem _ hd, r⟩

theorem reachable_rs (cap : Int) (es : List Event) : RegSound (run { cap := cap } es) :=
  (run_props (fun c => (c.evs.map eventKey).Nodup ∧ RegSound c) es (fun c e _ h => add_rs c e h.1 h.2) { cap := cap }
    ⟨List.nodup_nil, fun _ ht => nomatch ht⟩).2

theorem named_of_blocked (c : Cache) (hs : RegSound c) (x : Event) (hb : Blocked c x = true) :
    ∃ d ∈ c.evs, d.kind = 5 ∧ Names d x := by
  obtain ⟨t, ht, href, hp⟩ := (blocked_iff c x).1 hb
  obtain ⟨d, hd, hd5, hdp, _, hdr⟩ := hs t ht
  exact ⟨d, hd, hd5, hdp.trans hp, href.elim (fun h => Or.inl (h ▸ hdr)) fun h => Or.inr (h ▸ hdr)⟩

theorem block_has_retained_request (cap : Int) (es : List Event) (x : Event)
    (hb : Blocked (run { cap := cap } es) x = true) :
    ∃ d ∈ (run { cap := cap } es).evs, d.kind = 5 ∧ d.pubkey = x.pubkey ∧
      (eventKey x ∈ k5Refs d ∨ x.id ∈ k5Refs d) := by
  obtain ⟨d, hd, h5, hn⟩ := named_of_blocked _ (reachable_rs cap es) x hb
  exact ⟨d, hd, h5, hn.author, hn.ref⟩

theorem no_request_no_block (cap : Int) (es : List Event) (x : Event)
    (h : ∀ d ∈ (run { cap := cap } es).evs, d.kind = 5 → d.pubkey = x.pubkey →
      eventKey x ∉ k5Refs d ∧ x.id ∉ k5Refs d) :
    Blocked (run { cap := cap } es) x = false := by
  refine Bool.eq_false_iff.2 fun hb => ?_
  obtain ⟨d, hd, hd5, hdp, hr⟩ := block_has_retained_request cap es x hb
  exact hr.elim (h d hd hd5 hdp).1 (h d hd hd5 hdp).2

theorem registry_exact (cap : Int) (es : List Event) (t : String × String × String) :
    t ∈ (run { cap := cap } es).deleted ↔
      ∃ d ∈ (run { cap := cap } es).evs, d.kind = 5 ∧ d.pubkey = t.2.1 ∧ d.id = t.2.2 ∧ t.1 ∈ k5Refs d := by
  constructor
  · exact reachable_rs cap es t
  · rintro ⟨d, hd, hd5, hdp, hdi, hdr⟩
    have := (run_inv2 { cap := cap } es (inv2_empty cap)).rc d hd hd5 t.1 hdr
    rw [hdp, hdi] at this
    exact this

-- a request that names itself and a note leaves the store at once and leaves nothing registered, so the note can
-- come back (the history of seed C05-F)
def note : Event := { id := "aa", pubkey := "p1", createdAt := 1, kind := 1, tags := [], content := "", sig := "" }
def selfDel : Event := { id := "dd", pubkey := "p1", createdAt := 2, kind := 5, tags := [["e", "dd"], ["e", "aa"]], content := "", sig := "" }
example : (run { cap := 10 } [note, selfDel]).evs = [] ∧ (run { cap := 10 } [note, selfDel]).deleted = [] := by decide
example : ((run { cap := 10 } [note, selfDel]).add note).2 = true := by decide

end Moc.C05
