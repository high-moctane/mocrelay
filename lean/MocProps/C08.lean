/-
  C08 — merged REQ: one EOSE after all children, ordered de-duplicated stream before.

  Model: `MergeSt.client`, `sendEose`, `sendableEvent` (MocModel/Merge.lean) = `handleRecvReqMsg`,
  `handleRecvCloseMsg`, `handleSendEOSEMsg`, `handleSendEventMsg` and `mergeHandlerSessionReqState` of
  handler.go, every test regenerated from the source.  A session's state is passed through 1-slot channels,
  so each of these runs atomically and a session is a sequence of atomic steps (`MStep`); the theorems below
  hold for every such sequence, i.e. for every interleaving of the children with each other and the client.
  That real executions are such sequences (the goroutine plumbing) is read off the code and validated at run time.

  Here: one step (what `sendEose` and `sendableEvent` do by the state they find is in MergeLemmas.lean, `sendEose_cases`,
  `sendableEvent_cases`; the order and limit tests behind them: `ordStep_cases`, `subStep_cases`), the merged EOSE over
  traces (`eose_bound`), and what an event forwarded before the EOSE has passed (`event_before_eose`).
  The forwarded stream as a whole is in C08Stream.lean.
-/
import MocModel.Merge
import MocModel.Spec.Nip01
import MocProps.C02
import MocProps.C09

namespace Moc.C08

/-- With the subscription open (`hopen`: some child still owes its EOSE), child `i`'s EOSE is forwarded, under the same
    subscription id, exactly when it was the last one missing, and the subscription's state is dropped at that moment;
    otherwise only flag `i` is set. -/
theorem eose_with_state (st : MergeSt) (i : Nat) (sub : String) (r : ReqSub) (h : alGet st.req sub = some r)
    (hopen : r.eose.contains false = true) :
    sendEose st i sub =
      if (r.eose.set i true).contains false
      then ({ st with req := alSet st.req sub { r with eose := r.eose.set i true } }, none)
      else ({ st with req := alErase (alSet st.req sub { r with eose := r.eose.set i true }) sub }, some (.eose sub)) := by
  rw [sendEose_eq, h]
  exact if_pos hopen

/-- "never earlier": every other child's flag, which only that child's own EOSE sets, is set already -/
theorem eose_not_early (st : MergeSt) (i : Nat) (sub : String) (r : ReqSub) (h : alGet st.req sub = some r)
    (hopen : r.eose.contains false = true) (o : ServerMsg) (hout : (sendEose st i sub).2 = some o) :
    o = .eose sub ∧ ∀ j, j < r.eose.length → j ≠ i → r.eose[j]? = some true := by
  rw [eose_with_state st i sub r h hopen] at hout
  by_cases hc : (r.eose.set i true).contains false = true
  · rw [if_pos hc] at hout; cases hout
  · rw [if_neg hc] at hout
    refine ⟨(Option.some.inj hout).symm, fun j hj hji => ?_⟩
    have hmem : r.eose[j] ∈ r.eose.set i true := by
      rw [← List.getElem_set_ne (Ne.symm hji) (by simpa using hj)]; exact List.getElem_mem _
    rw [List.getElem?_eq_getElem hj]
    cases hb : r.eose[j] with
    | true => rfl
    | false => exact absurd (List.contains_iff_mem.2 (hb ▸ hmem)) hc

theorem eose_clears (st : MergeSt) (i : Nat) (sub : String) (o : ServerMsg)
    (hout : (sendEose st i sub).2 = some o) : alGet (sendEose st i sub).1.req sub = none := by
  rcases sendEose_cases st i sub with ⟨_, e⟩ | ⟨r, _, _, e⟩ | ⟨r, _, _, _, e⟩ | ⟨r, _, _, _, e⟩ <;> rw [e] at hout ⊢
  · cases hout
  · cases hout
  · cases hout
  · exact alGet_alErase_self _ _

theorem sendEose_req_ne (st : MergeSt) (i : Nat) (sub k : String) (hk : k ≠ sub) :
    alGet (sendEose st i sub).1.req k = alGet st.req k := by
  rcases sendEose_cases st i sub with ⟨_, e⟩ | ⟨r, _, _, e⟩ | ⟨r, _, _, _, e⟩ | ⟨r, _, _, _, e⟩ <;> rw [e]
  · exact alGet_alErase_ne _ _ _ hk
  · exact alGet_alSet_ne _ _ _ _ hk
  · exact (alGet_alErase_ne _ _ _ hk).trans (alGet_alSet_ne _ _ _ _ hk)

/-- a forwarded event is the child's message itself, subscription id included -/
theorem event_out_shape (st : MergeSt) (i : Nat) (sub : String) (e : Event) :
    (st.child i (.event sub e)).2 = .panic ∨ (st.child i (.event sub e)).2 = .ok none ∨
      (st.child i (.event sub e)).2 = .ok (some (.event sub e)) := by
  simp only [MergeSt.child]
  cases (sendableEvent st i sub e).2 with
  | panic => exact Or.inl rfl
  | ok b => cases b <;> simp

/-- After the merged EOSE (state gone) a child's event is forwarded unchanged and the state stays as it is, so the same holds
    of the child's next event: its order is kept. -/
theorem event_after_eose (st : MergeSt) (i : Nat) (sub : String) (e : Event) (h : alGet st.req sub = none) :
    st.child i (.event sub e) = (st, .ok (some (.event sub e))) := by
  rw [MergeSt.child, sendableEvent_eq, h]
  rfl

theorem sendableEvent_open (st : MergeSt) (i : Nat) (sub : String) (e : Event) (r : ReqSub)
    (h : alGet st.req sub = some r) (hopen : r.eose.contains false = true) :
    sendableEvent st i sub e =
      if r.eose.getD i false then (st, .ok false)
      else ({ st with req := alSet st.req sub (subStep r e).1 }, (subStep r e).2) := by
  rw [sendableEvent_eq, h]
  exact if_pos hopen

theorem sendableEvent_req_ne (st : MergeSt) (i : Nat) (sub : String) (e : Event) (k : String) (hk : k ≠ sub) :
    alGet (sendableEvent st i sub e).1.req k = alGet st.req k := by
  rcases sendableEvent_cases st i sub e with ⟨_, h⟩ | ⟨r, _, _, h⟩ | ⟨r, _, _, _, h⟩ | ⟨r, _, _, _, h⟩ <;> rw [h]
  · exact alGet_alErase_ne _ _ _ hk
  · exact alGet_alSet_ne _ _ _ _ hk

theorem child_frame (st : MergeSt) (i : Nat) (m : ServerMsg) (k : String) (hk : alGet st.req k = none) :
    alGet (st.child i m).1.req k = none := by
  cases m with
  | eose sub =>
    by_cases hks : k = sub
    · subst hks; rw [MergeSt.child, sendEose_eq, hk]; exact hk
    · exact (sendEose_req_ne st i sub k hks).trans hk
  | event sub e =>
    by_cases hks : k = sub
    · subst hks; rw [event_after_eose st i k e hk]; exact hk
    · exact (sendableEvent_req_ne st i sub e k hks).trans hk
  | _ => rw [C09.child_tables]; exact hk

/-- only a REQ for `k` creates state for `k` -/
def isReqFor (k : String) : MStep → Bool
  | .client (.req s _) => s == k
  | _ => false

theorem client_req_other (st : MergeSt) (m : ClientMsg) (k : String) (hnr : isReqFor k (.client m) = false) :
    alGet (st.client m).req k = alGet st.req k ∨ alGet (st.client m).req k = none := by
  cases m with
  | req s fs => exact .inl (alGet_alSet_ne _ _ _ _ (fun h => by simp [isReqFor, h] at hnr))
  | close s =>
    by_cases h : k = s
    · exact .inr (h ▸ alGet_alErase_self _ _)
    · exact .inl (alGet_alErase_ne _ _ _ h)
  | _ => exact .inl rfl

theorem client_frame (st : MergeSt) (m : ClientMsg) (k : String) (hk : alGet st.req k = none)
    (hnr : isReqFor k (.client m) = false) : alGet (st.client m).req k = none := by
  rcases client_req_other st m k hnr with h | h
  · exact h.trans hk
  · exact h

/-- the premises `alGet st.req sub = some r` and `r.eose.contains false` of the theorems above hold right after a REQ,
    given a child -/
theorem req_opens (st : MergeSt) (sub : String) (fs : List Filter) (hn : 0 < st.n) :
    ∃ r, alGet (st.client (.req sub fs)).req sub = some r ∧ r.eose = List.replicate st.n false ∧
      r.eose.contains false = true ∧ r.last = none ∧ r.seen = [] ∧ r.matchers = newMatchers fs := by
  refine ⟨_, by simp only [MergeSt.client]; exact alGet_alSet_self _ _ _, rfl, ?_, rfl, rfl, rfl⟩
  cases hn' : st.n with
  | zero => exact absurd hn (hn' ▸ Nat.lt_irrefl 0)
  | succ m => simp [List.replicate_succ]

/-- number of merged `EOSE k` the client received -/
def eoseCount (k : String) (outs : List ServerMsg) : Nat := outs.countP (fun o => decide (o = .eose k))

theorem eoseCount_append (k : String) (a b : List ServerMsg) : eoseCount k (a ++ b) = eoseCount k a + eoseCount k b :=
  List.countP_append

theorem child_eose (st : MergeSt) (i : Nat) (m : ServerMsg) (k : String) :
    eoseCount k (outOf (st.child i m).2) = 0 ∨
    (eoseCount k (outOf (st.child i m).2) = 1 ∧ (alGet st.req k).isSome = true ∧ alGet (st.child i m).1.req k = none) := by
  have hne : ∀ x : Option ServerMsg, (∀ o, x = some o → o ≠ .eose k) → eoseCount k (outOf (.ok x)) = 0 := fun x h => by
    cases x with
    | none => rfl
    | some o => simp [eoseCount, outOf, h o rfl]
  cases m with
  | eose sub =>
    rcases sendEose_cases st i sub with ⟨_, e⟩ | ⟨r, _, _, e⟩ | ⟨r, _, _, _, e⟩ | ⟨r, h, _, _, e⟩ <;> rw [MergeSt.child, e]
    · exact .inl rfl
    · exact .inl rfl
    · exact .inl rfl
    · by_cases hk : sub = k
      · subst hk; exact .inr ⟨by simp [eoseCount, outOf], by rw [h]; rfl, alGet_alErase_self _ _⟩
      · exact .inl (hne _ fun o ho => Option.some.inj ho ▸ by simpa using hk)
  | event sub e =>
    rcases event_out_shape st i sub e with h | h | h <;> rw [h]
    · exact .inl rfl
    · exact .inl rfl
    · exact .inl (hne _ fun o ho => Option.some.inj ho ▸ ServerMsg.noConfusion)
  | ok id acc pfx msg =>
    exact .inl (hne _ fun o ho => by obtain ⟨a, b, c, d, rfl⟩ := C09.sendOK_shape st i _ o ho; exact ServerMsg.noConfusion)
  | count sub n a =>
    exact .inl (hne _ fun o ho => by obtain ⟨a, b, c, rfl⟩ := C09.sendCount_shape st i sub n a o ho; exact ServerMsg.noConfusion)
  | _ => exact .inl (hne _ fun o ho => Option.some.inj ho ▸ ServerMsg.noConfusion)

/-- The two claims go through the induction together: a step writes `EOSE k` only by dropping the state of `k`
    (`child_eose`), and without state none follows. -/
theorem eose_bound (k : String) (tr : List MStep) :
    ∀ st : MergeSt, (∀ s ∈ tr, isReqFor k s = false) →
      eoseCount k (runMerge st tr).2 ≤ 1 ∧ (alGet st.req k = none → eoseCount k (runMerge st tr).2 = 0) := by
  induction tr with
  | nil => exact fun _ _ => ⟨Nat.zero_le _, fun _ => rfl⟩
  | cons s rest ih =>
    intro st hnr
    have hrest : ∀ s ∈ rest, isReqFor k s = false := fun s hs => hnr s (List.mem_cons_of_mem _ hs)
    cases s with
    | client m =>
      obtain ⟨h1, h0⟩ := ih (st.client m) hrest
      exact ⟨h1, fun hk => h0 (client_frame st m k hk (hnr _ List.mem_cons_self))⟩
    | child i m =>
      obtain ⟨h1, h0⟩ := ih (st.child i m).1 hrest
      rw [runMerge, eoseCount_append]
      rcases child_eose st i m k with c0 | ⟨c1, hs, hn⟩
      · rw [c0, Nat.zero_add]
        exact ⟨h1, fun hk => h0 (child_frame st i m k hk)⟩
      · rw [c1, h0 hn]
        exact ⟨Nat.le_refl 1, fun hk => by rw [hk] at hs; cases hs⟩

/-- `alGet st.req k = none`: never requested, closed by the client, or past its merged EOSE.  Whatever the children
    send, no EOSE for it reaches the client until a new REQ. -/
theorem no_state_no_eose (k : String) (tr : List MStep) :
    ∀ st : MergeSt, alGet st.req k = none → (∀ s ∈ tr, isReqFor k s = false) →
      eoseCount k (runMerge st tr).2 = 0 :=
  fun st h hnr => (eose_bound k tr st hnr).2 h

theorem eose_at_most_once (k : String) (tr : List MStep) :
    ∀ st : MergeSt, (∀ s ∈ tr, isReqFor k s = false) → eoseCount k (runMerge st tr).2 ≤ 1 :=
  fun st hnr => (eose_bound k tr st hnr).1

theorem closed_no_eose (st : MergeSt) (k : String) (tr : List MStep) (hnr : ∀ s ∈ tr, isReqFor k s = false) :
    eoseCount k (runMerge st (.client (.close k) :: tr)).2 = 0 := by
  simp only [runMerge]
  exact no_state_no_eose k tr _ (by simp [MergeSt.client, alGet_alErase_self]) hnr

theorem evNewer_cmpInt (a b : Int) : Gen.evNewer (cmpInt a b) = decide (a < b) := by
  unfold Gen.evNewer cmpInt
  by_cases h1 : a < b
  · rw [if_pos h1, decide_eq_true h1]; rfl
  · rw [if_neg h1, decide_eq_false h1]
    split <;> rfl

theorem evOlder_cmpInt (a b : Int) : Gen.evOlder (cmpInt a b) = decide (b < a) := by
  unfold Gen.evOlder cmpInt
  by_cases h1 : a < b
  · rw [if_pos h1, decide_eq_false (Int.lt_asymm h1)]; rfl
  · rw [if_neg h1]
    by_cases h2 : a > b
    · rw [if_pos h2, decide_eq_true h2]; rfl
    · rw [if_neg h2, decide_eq_false h2]; rfl

theorem ordStep_cases (r : ReqSub) (e : Event) :
    (ordStep r e = none ∧ ∃ l, r.last = some l ∧ l.createdAt < e.createdAt) ∨
    ∃ s, ordStep r e = some { r with seen := s } ∧
      (∀ l, r.last = some l → e.createdAt ≤ l.createdAt) ∧
      (∀ l, r.last = some l → l.createdAt = e.createdAt → s = r.seen) := by
  obtain ⟨eo, last, seen, ms⟩ := r
  unfold ordStep
  cases last with
  | none => exact .inr ⟨seen, rfl, fun _ h => (Option.some_ne_none _ h.symm).elim, fun _ _ _ => rfl⟩
  | some l =>
    dsimp only
    rw [evNewer_cmpInt, evOlder_cmpInt]
    by_cases h1 : l.createdAt < e.createdAt
    · exact .inl ⟨if_pos (decide_eq_true h1), l, rfl, h1⟩
    · rw [if_neg (by simpa using h1)]
      by_cases h2 : e.createdAt < l.createdAt
      · rw [if_pos (decide_eq_true h2)]
        exact .inr ⟨[], rfl, fun l' hl' => Option.some.inj hl' ▸ Int.le_of_lt h2,
          fun l' hl' heq => absurd (Option.some.inj hl' ▸ heq ▸ h2) (Int.lt_irrefl _)⟩
      · rw [if_neg (by simpa using h2)]
        exact .inr ⟨seen, rfl, fun l' hl' => Option.some.inj hl' ▸ Int.not_lt.1 h1, fun _ _ _ => rfl⟩

/-- the ways through `IsSendableEventMsg` after its two EOSE tests: refused by the order test; else, with `s` the ids
    that `ordStep` leaves as seen: the id seen at this timestamp; the limits exhausted; a panic in `LimitMatch`; looked at by
    the matchers (`m`: some filter matches) -/
theorem subStep_cases (r : ReqSub) (e : Event) :
    subStep r e = (r, .ok false) ∨
    ∃ s : List String,
      (∀ l, r.last = some l → e.createdAt ≤ l.createdAt) ∧
      (∀ l, r.last = some l → l.createdAt = e.createdAt → s = r.seen) ∧
      ((e.id ∈ s ∧ subStep r e = ({ r with last := some e, seen := s }, .ok false)) ∨
       (e.id ∉ s ∧ doneAll r.matchers = true ∧ subStep r e = ({ r with last := some e, seen := e.id :: s }, .ok false)) ∨
       (e.id ∉ s ∧ doneAll r.matchers = false ∧ limitMatchAll r.matchers e = .panic ∧ subStep r e = (r, .panic)) ∨
       ∃ m ms', e.id ∉ s ∧ doneAll r.matchers = false ∧ limitMatchAll r.matchers e = .ok (m, ms') ∧
          subStep r e = ({ r with last := some e, seen := e.id :: s, matchers := ms' }, .ok m)) := by
  unfold subStep
  rcases ordStep_cases r e with ⟨ho, -⟩ | ⟨s, ho, hle, hsame⟩ <;> rw [ho]
  · exact .inl rfl
  · refine .inr ⟨s, hle, hsame, ?_⟩
    simp only [Gen.evSeen, Gen.evDone, Gen.evNoMatch, Bool.false_or, List.contains_eq_mem, Bool.not_not]
    by_cases hs : e.id ∈ s
    · exact .inl ⟨hs, if_pos (decide_eq_true hs)⟩
    · rw [if_neg (by simpa using hs)]
      by_cases hd : doneAll r.matchers = true
      · exact .inr (.inl ⟨hs, hd, if_pos hd⟩)
      · rw [if_neg hd]
        have hd' : doneAll r.matchers = false := by simpa using hd
        cases limitMatchAll r.matchers e with
        | panic => exact .inr (.inr (.inl ⟨hs, hd', rfl, rfl⟩))
        | ok p => exact .inr (.inr (.inr ⟨p.1, p.2, hs, hd', rfl, rfl⟩))

theorem subStep_forward (r : ReqSub) (e : Event) (h : (subStep r e).2 = .ok true) :
    (∀ l, r.last = some l → e.createdAt ≤ l.createdAt) ∧
    (∀ l, r.last = some l → l.createdAt = e.createdAt → e.id ∉ r.seen) ∧
    doneAll r.matchers = false ∧
    (∃ ms', limitMatchAll r.matchers e = .ok (true, ms')) := by
  rcases subStep_cases r e with h' | ⟨s, hle, hsame, ⟨-, h'⟩ | ⟨-, -, h'⟩ | ⟨-, -, -, h'⟩ | ⟨m, ms', hs, hd, hlm, h'⟩⟩ <;>
    rw [h'] at h
  · cases h
  · cases h
  · cases h
  · cases h
  · cases Res.ok.inj h
    exact ⟨hle, fun l hl heq => hsame l hl heq ▸ hs, hd, ms', hlm⟩

/-- An event forwarded while the subscription is open comes from a child that has not yet sent its EOSE, is not newer
    than the last event looked at (so the forwarded stream is non-increasing in created_at), has an id not seen at its
    timestamp (so no duplicates), found the limit not exhausted, and matches one of the REQ's filters per NIP-01.
    `hwf`, `hne` are C02's: `#x` names distinct (a Go map), no empty tag (what the admission gate lets through). -/
theorem event_before_eose (st : MergeSt) (i : Nat) (sub : String) (e : Event) (r : ReqSub)
    (h : alGet st.req sub = some r) (hopen : r.eose.contains false = true)
    (hwf : ∀ m ∈ r.matchers, m.f.WF) (hne : C02.TagsNonEmpty e)
    (hout : (st.child i (.event sub e)).2 = .ok (some (.event sub e))) :
    r.eose.getD i false = false ∧
    (∀ l, r.last = some l → e.createdAt ≤ l.createdAt) ∧
    (∀ l, r.last = some l → l.createdAt = e.createdAt → e.id ∉ r.seen) ∧
    doneAll r.matchers = false ∧
    nip01MatchAnyB (r.matchers.map (·.f)) e = true := by
  have hv : (sendableEvent st i sub e).2 = .ok true := by
    rw [MergeSt.child] at hout
    cases hr : (sendableEvent st i sub e).2 with
    | panic => rw [hr] at hout; cases hout
    | ok b =>
      cases b with
      | true => rfl
      | false => simp [hr] at hout
  rw [sendableEvent_open st i sub e r h hopen] at hv
  by_cases hce : r.eose.getD i false = true
  · rw [if_pos hce] at hv; cases hv
  · rw [if_neg hce] at hv
    obtain ⟨h1, h2, h3, ms', h4⟩ := subStep_forward r e hv
    obtain ⟨ms'', hspec⟩ := C02.limitMatchAll_verdict r.matchers e hwf hne
    rw [hspec] at h4
    exact ⟨by simpa using hce, h1, h2, h3, (Prod.mk.inj (Res.ok.inj h4)).1⟩

/-! non-vacuity: two children; the second child's newer event arrives late and is dropped, a duplicate is
    dropped, the EOSE comes after both children's, a live event afterwards is forwarded -/
def ev (id : String) (t : Int) : Event := { id := id, pubkey := "p", createdAt := t, kind := 1, tags := [], content := "", sig := "" }
def exTrace : List MStep :=
  [.client (.req "s" [{}]),
   .child 0 (.event "s" (ev "a" 20)), .child 1 (.event "s" (ev "b" 30)), .child 1 (.event "s" (ev "a" 20)),
   .child 1 (.event "s" (ev "c" 10)), .child 0 (.eose "s"), .child 0 (.eose "s"), .child 1 (.eose "s"),
   .child 1 (.eose "s"), .child 0 (.event "s" (ev "z" 99))]
example : (runMerge { n := 2 } exTrace).2 =
    [.event "s" (ev "a" 20), .event "s" (ev "c" 10), .eose "s", .event "s" (ev "z" 99)] := by decide

end Moc.C08
