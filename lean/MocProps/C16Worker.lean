/-
  C16 (SQLite handler) / C14: the insert worker neither loses nor invents anything.

  For every sequence of arrivals and ticks, every batch size and whatever the LRU forgets: once the worker
  (MocModel/SqlWorker.lean, `serveBulkInsert`) has flushed at the end of its context, the tables are exactly those
  of ONE batch holding every event that was handed over, in arrival order — the skipped repeats included, because
  re-inserting an event that was inserted before changes nothing.  Together with C06 (`candidates_eq`,
  `answers_accepted`) this is what the REQ clause of the SQLite handler is judged by.
  Hypothesis: ids determine events (what authenticity provides), also as `Coherent` over the rows.  Insertions are
  taken to succeed (failures and retries: C14).
-/
import MocModel.SqlWorker
import MocProps.C06Tables

namespace Moc.C16W
open Moc.C14 Moc.C06

theorem worker_source_pinned : workerActualSource = workerExpectedSource := by rfl

theorem received_append (a b : List WStep) : received (a ++ b) = received a ++ received b := by
  induction a with
  | nil => rfl
  | cons s r ih => cases s <;> simp [received, ih]

theorem coherent_batch_mono {db : Db} {evs evs' : List Event} (hs : evs' ⊆ evs)
    (h : Coherent (db.events ++ (evs.filterMap buildParams).map (·.row))) :
    Coherent (db.events ++ (evs'.filterMap buildParams).map (·.row)) := by
  have sub : db.events ++ (evs'.filterMap buildParams).map (·.row) ⊆ db.events ++ (evs.filterMap buildParams).map (·.row) :=
    List.append_subset.2 ⟨List.subset_append_left _ _,
      List.subset_append_of_subset_right _ (List.map_subset _ (List.filterMap_subset _ hs))⟩
  exact fun r hr r' hr' => h r (sub hr) r' (sub hr')

/-- flushing now would give the tables of one batch of everything received so far; every remembered id belongs to a
    received event -/
structure WInv (db0 : Db) (all : List Event) (w : Worker) : Prop where
  tables : w.db.insertBatch w.pending = db0.insertBatch all
  seen : ∀ id ∈ w.seen, ∃ e ∈ all, e.id = id

/-- `h.tables` serves as it is: after a flush nothing is pending, and inserting no event is the identity by
    computation -/
theorem WInv.flush_if {db0 : Db} {all : List Event} {w : Worker} (h : WInv db0 all w) (c : Bool) :
    WInv db0 all (if c then w.flush else w) := by
  cases c
  · exact h
  · exact ⟨h.tables, h.seen⟩

theorem step_inv (db0 : Db) (evs all : List Event) (w : Worker) (s : WStep) (h : WInv db0 all w)
    (hsub : ∀ x ∈ all ++ received [s], x ∈ evs)
    (hinj : ∀ a ∈ evs, ∀ b ∈ evs, a.id = b.id → a = b)
    (hcoh : Coherent (db0.events ++ (evs.filterMap buildParams).map (·.row))) :
    WInv db0 (all ++ received [s]) (w.step s) := by
  cases s with
  | tick =>
    rw [show all ++ received [.tick] = all from List.append_nil all]
    exact h.flush_if _
  | recv e =>
    have hseen : ∀ id ∈ e.id :: w.seen, ∃ x ∈ all ++ [e], x.id = id := by
      intro id hid
      rcases List.mem_cons.1 hid with rfl | hid
      · exact ⟨e, by simp, rfl⟩
      · obtain ⟨x, hx, hxi⟩ := h.seen id hid
        exact ⟨x, List.mem_append_left _ hx, hxi⟩
    simp only [received, Worker.step, Worker.recv]
    by_cases hs : w.seen.contains e.id = true
    · -- a remembered id: the event is one of those received before, inserting it again changes nothing
      rw [if_pos hs]
      obtain ⟨e', he', hid⟩ := h.seen e.id (List.contains_iff_mem.1 hs)
      obtain rfl : e' = e := hinj e' (hsub e' (by simp [he'])) e (hsub e (by simp [received])) hid
      refine ⟨?_, fun id hid => hseen id (List.mem_cons.2 ((List.mem_cons.1 hid).imp_right List.mem_of_mem_erase))⟩
      rw [h.tables, ← batch_split_irrelevant]
      exact (insertBatch_again db0 all [e'] (by simpa using he')
        (coherent_batch_mono (fun x hx => hsub x (List.mem_append_left _ hx)) hcoh)).symm
    · rw [if_neg hs]
      refine WInv.flush_if ⟨?_, fun id hid => hseen id (List.mem_of_mem_take hid)⟩ _
      show w.db.insertBatch (w.pending ++ [e]) = db0.insertBatch (all ++ [e])
      rw [← batch_split_irrelevant, h.tables, batch_split_irrelevant]

theorem worker_equals_one_batch (num : Nat) (db0 : Db) (steps : List WStep)
    (hinj : ∀ a ∈ received steps, ∀ b ∈ received steps, a.id = b.id → a = b)
    (hcoh : Coherent (db0.events ++ ((received steps).filterMap buildParams).map (·.row))) :
    ((Worker.run { num := num, db := db0 } steps).stop).db = db0.insertBatch (received steps) ∧
    ((Worker.run { num := num, db := db0 } steps).stop).pending = [] := by
  have hfin : WInv db0 (received steps) (Worker.run { num := num, db := db0 } steps) := by
    refine foldl_prefix_induction Worker.step _ (fun done w => WInv db0 (received done) w) steps
      ⟨rfl, fun _ h => (List.not_mem_nil h).elim⟩ ?_
    rintro done s rest rfl hw
    rw [received_append]
    refine step_inv db0 _ _ _ s hw (fun x hx => ?_) hinj hcoh
    rw [show done ++ s :: rest = (done ++ [s]) ++ rest by simp, received_append, received_append]
    exact List.mem_append_left _ hx
  generalize Worker.run { num := num, db := db0 } steps = w at hfin
  have hp : w.stop.pending = [] := by
    unfold Worker.stop
    by_cases hc : Gen.workerStopFlush w.pending.length = true
    · rw [if_pos hc]; rfl
    · rw [if_neg hc]
      simp only [Gen.workerStopFlush, decide_eq_true_eq] at hc
      exact List.length_eq_zero_iff.1 (by omega)
  have hstop : WInv db0 (received steps) w.stop := hfin.flush_if _
  exact ⟨by have := hstop.tables; rwa [hp] at this, hp⟩

/-! non-vacuity: batch size 2, a repeat that the LRU still remembers, a tick in between -/
def exE (id : String) (t : Int) : Event := { id := id, pubkey := "aa", createdAt := t, kind := 1, tags := [], content := "", sig := "" }
def exSteps : List WStep := [.recv (exE "01" 5), .tick, .recv (exE "02" 6), .recv (exE "01" 5), .recv (exE "03" 7)]

example : (received exSteps).map (·.id) = ["01", "02", "01", "03"] := by decide
example : ((Worker.run { num := 2 } exSteps).stop.db.events.map (·.id)) = ((Db.insertBatch {} (received exSteps)).events.map (·.id)) := by decide +kernel

end Moc.C16W
